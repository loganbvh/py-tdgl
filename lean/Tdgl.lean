-- Root of the `Tdgl` library: models (no Mathlib) and property theorems.
import Tdgl.Scalar
import Tdgl.Step
import Tdgl.Operators
import Tdgl.Update
import Tdgl.Runner
import Tdgl.Reader
import Tdgl.SolutionSave
import Tdgl.Refresh
import Tdgl.MuBoundary
import Tdgl.RunningState
import Tdgl.Adaptive
import Tdgl.AdaptiveRun
import Tdgl.Handler
import Tdgl.Options
import Tdgl.Param
import Tdgl.H5
import Tdgl.DeviceEq
import Tdgl.Screening
import Tdgl.Schedule
import Tdgl.Fields
import Tdgl.Units
import Tdgl.Geometry
import Tdgl.Topology
import Tdgl.Lemmas.RealInst
import Tdgl.Lemmas.Quadratic
import Tdgl.Lemmas.Sums
import Tdgl.Lemmas.Folds
import Tdgl.Lemmas.SortByKey
import Tdgl.Lemmas.Stage
import Tdgl.Lemmas.Site
import Tdgl.Lemmas.Phase
import Tdgl.Lemmas.Retry
import Tdgl.Lemmas.Update
import Tdgl.Lemmas.Gauge
import Tdgl.Lemmas.Triangle
import Tdgl.Lemmas.SortDedup
import Tdgl.Lemmas.Operators
import Tdgl.Generated.StepGen
import Tdgl.Generated.ValidateGen
import Tdgl.Generated.AdaptGen
import Tdgl.Generated.SourcePins
import Tdgl.Props.C02
import Tdgl.Props.C02Bridge
import Tdgl.Props.C02Run
import Tdgl.Props.C12Bridge
import Tdgl.Props.C12Pinned
import Tdgl.Props.C12Physical
import Tdgl.Props.C19Bridge
import Tdgl.Props.C13Bridge
import Tdgl.Props.C01Bridge
import Tdgl.Props.C05Bridge
import Tdgl.Props.NonVacuity
import Tdgl.Props.C01Float
import Tdgl.Props.C01Grounded
import Tdgl.Props.C01Boundary
import Tdgl.Props.C01Run
import Tdgl.Props.C05Reader
import Tdgl.Props.C05Buffer
import Tdgl.Props.C05Physical
import Tdgl.Props.C13State
import Tdgl.Props.C13Seed
import Tdgl.Props.C13Velocity
import Tdgl.Props.C06Run
import Tdgl.Props.C06Physical
import Tdgl.Props.C03
import Tdgl.Props.C04
import Tdgl.Props.C04Time
import Tdgl.Props.C01
import Tdgl.Props.C06
import Tdgl.Props.C17
import Tdgl.Props.C17Screen
import Tdgl.Props.C17Adaptive
import Tdgl.Props.C10
import Tdgl.Props.C10Run
import Tdgl.Props.C10Screen
import Tdgl.Props.C10Bridge
import Tdgl.Props.C12
import Tdgl.Props.C05
import Tdgl.Props.C11
import Tdgl.Props.C11Physical
import Tdgl.Props.C15
import Tdgl.Props.C15Inv
import Tdgl.Props.C15Times
import Tdgl.Props.C19
import Tdgl.Props.C19Seed
import Tdgl.Props.C19Layer
import Tdgl.Props.C16
import Tdgl.Props.C14
import Tdgl.Props.C14Mem
import Tdgl.Props.C13
import Tdgl.Props.C09
import Tdgl.Props.C20
import Tdgl.Props.C20Site
import Tdgl.Props.C08
import Tdgl.Props.C18
import Tdgl.Props.C18Orient
import Tdgl.Props.C07
import Tdgl.Props.C07Topology
import Tdgl.Props.C07Delaunay
