/-
  Lattice gauge covariance of the update, once.  This file: one site (`solveSite`, `zOf`, `wOf`, `stepSite`);
  `Tdgl.Lemmas.Gauge`: the operators and the whole mesh.

  A gauge transformation is a family of unit-modulus numbers `q r` (one per site, before the step) and `q' r`
  (after the step).  It acts on ψ by `ψ_r ↦ q_r ψ_r`, on a spatial link by `U_e ↦ q_{e0} U_e conj(q_{e1})` and on the
  temporal link `exp(-i μ_r dt)` of site `r` by `q'_r · exp(-i μ_r dt) · conj(q_r)`; written without conjugates:

      U'_e · q_{e1} = q_{e0} · U_e                      (`hU`)
      linkU μ'_r dt · q_r = q'_r · linkU μ_r dt          (`hT`)

  Everything in the site update commutes with such a transformation.  The spatial gauge of C04 (`q' = q = e^{iχ_r}`,
  `θ' = θ + χ_{e1} − χ_{e0}`, `μ' = μ`), the global phase and the time gauge of C04Time (`q = e^{iφ}`,
  `q' = e^{i(φ − c dt)}`, `U' = U`, `μ' = μ + c`) and the pinned variant of C06Run are instances.
  Complex identities are proved in `ℂ` through `toC`, where `ring` sees atoms and not pairs of reals.
-/
import Mathlib.Tactic.Ring
import Mathlib.Tactic.LinearCombination
import Tdgl.Lemmas.Sums
import Tdgl.Lemmas.RealInst
import Tdgl.Step

open Finset

namespace Tdgl

/-! ### multiplication in `Cx ℝ` -/

theorem Cx.normSq_mul (q z : Cx ℝ) : Cx.normSq (Cx.mul q z) = Cx.normSq q * Cx.normSq z := by
  simp only [Cx.normSq, Cx.mul]
  ring

/-- the real inner product `Re(conj z · w)` that `solveSite` calls `c` -/
theorem Cx.dot_mul (q z w : Cx ℝ) :
    (Cx.mul q w).re * (Cx.mul q z).re + (Cx.mul q w).im * (Cx.mul q z).im
      = Cx.normSq q * (w.re * z.re + w.im * z.im) := by
  simp only [Cx.normSq, Cx.mul]
  ring

theorem Cx.mul_zero (p : Cx ℝ) : Cx.mul p ⟨0, 0⟩ = ⟨0, 0⟩ := by
  apply Cx.ext' <;> simp [Cx.mul]

theorem Cx.mul_comm (p q : Cx ℝ) : Cx.mul p q = Cx.mul q p := by
  apply toC_injective
  simp only [toC_mul]
  ring

theorem toC_mul_conj_of_unit {q : Cx ℝ} (hq : Cx.normSq q = 1) : toC q * (starRingEnd ℂ) (toC q) = 1 := by
  rw [Complex.mul_conj, ← toC_normSq, hq, Complex.ofReal_one]

theorem Cx.normSq_expNegI (x : ℝ) : Cx.normSq (Cx.expNegI x) = 1 := by
  simp only [Cx.normSq, Cx.expNegI, hasCos_real, hasSin_real, ← sq, neg_sq]
  exact Real.cos_sq_add_sin_sq x

/-! ### the per-site quadratic -/

theorem absSq_mul_unit {q : Cx ℝ} (hq : Cx.normSq q = 1) (z : Cx ℝ) : absSq (Cx.mul q z) = absSq z := by
  unfold absSq
  rw [Cx.normSq_mul, hq, one_mul]

/-- the root of the quadratic rotates with its data, `|ψ'|²` and refusal do not see the rotation -/
theorem solveSite_mul_unit {q : Cx ℝ} (hq : Cx.normSq q = 1) (z w : Cx ℝ) :
    solveSite (Cx.mul q z) (Cx.mul q w) = (solveSite z w).map (fun px => (Cx.mul q px.1, px.2)) := by
  unfold solveSite
  simp only [absSq_mul_unit hq, Cx.dot_mul, hq, one_mul]
  split_ifs
  · rfl
  · simp only [Option.map_some, Option.some.injEq, Prod.mk.injEq, and_true]
    apply toC_injective
    simp only [toC_sub, toC_smul, toC_mul]
    ring

/-- `z` and `w` are complex-linear in `(ψ, lap)`; the temporal link carries the change of phase -/
theorem zOf_gauge {q q' : Cx ℝ} {mu mu' dt : ℝ} (hT : Cx.mul (linkU mu' dt) q = Cx.mul q' (linkU mu dt))
    (psi : Cx ℝ) (gamma : ℝ) : zOf (Cx.mul q psi) mu' gamma dt = Cx.mul q' (zOf psi mu gamma dt) := by
  have k := congrArg toC hT
  simp only [toC_mul] at k
  apply toC_injective
  simp only [zOf, toC_mul, toC_smul]
  linear_combination (((gamma * gamma / 2 : ℝ) : ℂ) * toC psi) * k

theorem wOf_gauge {q q' : Cx ℝ} {mu mu' dt : ℝ} (hT : Cx.mul (linkU mu' dt) q = Cx.mul q' (linkU mu dt))
    (psi lap : Cx ℝ) (a eps gamma u : ℝ) :
    wOf (Cx.mul q psi) a mu' eps gamma u dt (Cx.mul q lap) = Cx.mul q' (wOf psi a mu eps gamma u dt lap) := by
  have k := congrArg toC hT
  simp only [toC_mul] at k
  simp only [wOf, zOf_gauge hT]
  apply toC_injective
  simp only [toC_mul, toC_smul, toC_add]
  linear_combination
    (toC psi + ((dt / u * HasSqrt.sqrt (1 + gamma * gamma * a) : ℝ) : ℂ)
      * (((eps - a : ℝ) : ℂ) * toC psi + toC lap)) * k

/-- **One site.**  Gauge-related inputs give gauge-related outputs, the same `|ψ'|²` and the same refusal. -/
theorem stepSite_gauge {q q' : Cx ℝ} {mu mu' dt : ℝ} (hq' : Cx.normSq q' = 1)
    (hT : Cx.mul (linkU mu' dt) q = Cx.mul q' (linkU mu dt)) (psi lap : Cx ℝ) (a eps gamma u : ℝ) :
    stepSite (Cx.mul q psi) a mu' eps gamma u dt (Cx.mul q lap)
      = (stepSite psi a mu eps gamma u dt lap).map (fun px => (Cx.mul q' px.1, px.2)) := by
  unfold stepSite
  rw [zOf_gauge hT, wOf_gauge hT, solveSite_mul_unit hq']

end Tdgl
