/-
  The per-site quadratic over ℝ, characterised: `solveSite z w = some (p, x)` iff `p` solves `p + z|p|² = w`,
  `x = |p|²`, and `x` is the smaller root (`2|z|²x ≤ 2c+1`).  Everything the property files say about an answered
  site (soundness, branch, exact refusal, fixed points, the zero site) is read off this one equivalence.
-/
import Tdgl.Lemmas.RealInst
import Tdgl.Lemmas.Quadratic
import Tdgl.Step

namespace Tdgl

/-- `np.absolute(a)**2` is the squared modulus. -/
theorem absSq_eq (a : Cx ℝ) : absSq a = Cx.normSq a := by
  unfold absSq
  exact Real.mul_self_sqrt (Cx.normSq_nonneg a)

/-- `2c+1` of the code -/
noncomputable def bOf (z w : Cx ℝ) : ℝ := 2 * (w.re * z.re + w.im * z.im) + 1
/-- the discriminant of the code, in terms of squared moduli -/
noncomputable def dOf (z w : Cx ℝ) : ℝ := bOf z w * bOf z w - 4 * Cx.normSq z * Cx.normSq w

theorem discOf_eq (z w : Cx ℝ) : discOf z w = dOf z w := by
  unfold discOf dOf bOf; simp only [absSq_eq]

/-- the coded function, with squared moduli for `np.absolute(·)**2` -/
theorem solveSite_eq (z w : Cx ℝ) :
    solveSite z w = if dOf z w < 0 then none else
      some (Cx.sub w (Cx.smul (2 * Cx.normSq w / (bOf z w + Real.sqrt (dOf z w))) z),
        2 * Cx.normSq w / (bOf z w + Real.sqrt (dOf z w))) := by
  unfold solveSite
  simp only [absSq_eq, hasSqrt_real]
  rfl

theorem solveSite_none_iff (z w : Cx ℝ) : solveSite z w = none ↔ dOf z w < 0 := by
  rw [solveSite_eq]
  split_ifs with hd <;> simp only [hd]

theorem solveSite_some_iff (z w p : Cx ℝ) (x : ℝ) :
    solveSite z w = some (p, x) ↔
      0 ≤ dOf z w ∧ x = 2 * Cx.normSq w / (bOf z w + Real.sqrt (dOf z w)) ∧
      p = Cx.sub w (Cx.smul x z) := by
  rw [solveSite_eq]
  split_ifs with hd
  · simp only [false_iff, not_and]
    exact fun h0 => absurd h0 (not_le.mpr hd)
  · simp only [Option.some.injEq, Prod.mk.injEq, not_lt.mp hd, true_and]
    constructor
    · rintro ⟨rfl, rfl⟩
      exact ⟨rfl, rfl⟩
    · rintro ⟨rfl, rfl⟩
      exact ⟨rfl, rfl⟩

/-- a solution `p` of `p + z|p|² = w` makes `|p|²` a root of `|z|²x² − (2c+1)x + |w|²` -/
theorem root_of_solution {z w p : Cx ℝ} (h : Cx.add p (Cx.smul (Cx.normSq p) z) = w) :
    Cx.normSq z * Cx.normSq p * Cx.normSq p - bOf z w * Cx.normSq p + Cx.normSq w = 0 := by
  subst h
  simp only [bOf, Cx.normSq, Cx.add, Cx.smul]
  ring

/-- **What an answered site is**: a solution of the site equation, its squared modulus, on the smaller root. -/
theorem solveSite_eq_some_iff (z w p : Cx ℝ) (x : ℝ) :
    solveSite z w = some (p, x) ↔
      Cx.add p (Cx.smul (Cx.normSq p) z) = w ∧ x = Cx.normSq p ∧ 2 * Cx.normSq z * x ≤ bOf z w := by
  rw [solveSite_some_iff]
  have hsub : ∀ {y : ℝ}, p = Cx.sub w (Cx.smul y z) ↔ Cx.add p (Cx.smul y z) = w := by
    intro y
    constructor <;> rintro rfl <;> apply Cx.ext' <;> simp only [Cx.add, Cx.sub, Cx.smul] <;> ring
  constructor
  · rintro ⟨hD, hx, hp⟩
    have hb : 1 / 2 ≤ bOf z w := Quad.b_ge_half z.re z.im w.re w.im hD
    have hs0 : 0 ≤ Real.sqrt (dOf z w) := Real.sqrt_nonneg _
    have hss : Real.sqrt (dOf z w) * Real.sqrt (dOf z w)
        = bOf z w * bOf z w - 4 * Cx.normSq z * Cx.normSq w := Real.mul_self_sqrt hD
    have hden : bOf z w + Real.sqrt (dOf z w) ≠ 0 :=
      (add_pos_of_pos_of_nonneg (lt_of_lt_of_le one_half_pos hb) hs0).ne'
    have hxmul : x * (bOf z w + Real.sqrt (dOf z w)) = 2 * Cx.normSq w := by
      rw [hx, div_mul_cancel₀ _ hden]
    have hquad : Cx.normSq z * x * x - bOf z w * x + Cx.normSq w = 0 := by
      rw [hx]
      exact Quad.quad_root (Cx.normSq z) (bOf z w) (Cx.normSq w) _ hss hden
    have hsmall := Quad.small_root (Cx.normSq z) (bOf z w) (Cx.normSq w) _ x hss hden hxmul
    -- |w − x z|² = |w|² − x (b − 1) + x² |z|² = x
    have hnorm : Cx.normSq p = x := by
      rw [hp]
      simp only [bOf, Cx.normSq] at hquad
      simp only [Cx.normSq, Cx.sub, Cx.smul]
      linear_combination hquad
    exact ⟨by rw [hnorm]; exact hsub.mp hp, hnorm.symm, by rw [hsmall]; exact sub_le_self _ hs0⟩
  · rintro ⟨hp, rfl, hsmall⟩
    have hroot := root_of_solution hp
    have hx0 : 0 ≤ Cx.normSq p := Cx.normSq_nonneg p
    have hD : dOf z w = (bOf z w - 2 * Cx.normSq z * Cx.normSq p) ^ 2 := by
      unfold dOf
      linear_combination (-4 * Cx.normSq z) * hroot
    have hD0 : 0 ≤ dOf z w := by rw [hD]; exact sq_nonneg _
    have hb : 1 / 2 ≤ bOf z w := Quad.b_ge_half z.re z.im w.re w.im hD0
    refine ⟨hD0, ?_, hsub.mpr hp⟩
    rw [hD, Real.sqrt_sq (sub_nonneg.mpr hsmall),
      eq_div_iff (add_pos_of_pos_of_nonneg (lt_of_lt_of_le one_half_pos hb) (sub_nonneg.mpr hsmall)).ne']
    linear_combination (-2 : ℝ) * hroot

/-- with `z = 0` the site update returns `ψ' = w`, `|ψ'|² = |w|²` -/
theorem solveSite_zero (w : Cx ℝ) : solveSite (⟨0, 0⟩ : Cx ℝ) w = some (w, Cx.normSq w) := by
  refine (solveSite_eq_some_iff _ _ _ _).mpr ⟨?_, rfl, ?_⟩
  · apply Cx.ext' <;> simp [Cx.add, Cx.smul]
  · simp [bOf, Cx.normSq]

/-- a site that holds `ψ = 0` and sees a zero Laplacian stays `0` -/
theorem stepSite_zero (a mu eps gamma u dt : ℝ) :
    stepSite (⟨0, 0⟩ : Cx ℝ) a mu eps gamma u dt ⟨0, 0⟩ = some (⟨0, 0⟩, 0) := by
  have hz : zOf (⟨0, 0⟩ : Cx ℝ) mu gamma dt = ⟨0, 0⟩ := by
    simp only [zOf, Cx.mul, mul_zero, sub_zero, add_zero]
  have hw : wOf (⟨0, 0⟩ : Cx ℝ) a mu eps gamma u dt ⟨0, 0⟩ = ⟨0, 0⟩ := by
    simp only [wOf, hz, Cx.mul, Cx.add, Cx.smul, mul_zero, sub_zero, add_zero]
  rw [stepSite, hz, hw, solveSite_zero]
  simp [Cx.normSq]

/-- `z = kψ`, `w = (1 + k|ψ|²)ψ` with `k ≥ 0`: the answer is `ψ` itself -/
theorem solveSite_collinear (psi : Cx ℝ) {k : ℝ} (hk : 0 ≤ k) :
    solveSite (Cx.smul k psi) (Cx.smul (1 + k * Cx.normSq psi) psi) = some (psi, Cx.normSq psi) := by
  refine (solveSite_eq_some_iff _ _ _ _).mpr ⟨?_, rfl, ?_⟩
  · apply Cx.ext' <;> simp only [Cx.add, Cx.smul] <;> ring
  · have h0 := Cx.normSq_nonneg psi
    have hb : bOf (Cx.smul k psi) (Cx.smul (1 + k * Cx.normSq psi) psi)
        = 2 * (k * Cx.normSq psi) * (1 + k * Cx.normSq psi) + 1 := by
      simp only [bOf, Cx.normSq, Cx.smul]
      ring
    have hn : Cx.normSq (Cx.smul k psi) = k * k * Cx.normSq psi := by
      simp only [Cx.normSq, Cx.smul]
      ring
    rw [hb, hn]
    linear_combination 2 * mul_nonneg hk h0

/-- **Fixed points of the site update.**  With `μ = 0`, a site whose right-hand side `(ε − |ψ|²)ψ + lap` vanishes
    is returned unchanged, for every `γ`, `u`, `dt`. -/
theorem stepSite_stationary (psi lap : Cx ℝ) (eps gamma u dt : ℝ)
    (h : Cx.add (Cx.smul (eps - Cx.normSq psi) psi) lap = ⟨0, 0⟩) :
    stepSite psi (Cx.normSq psi) 0 eps gamma u dt lap = some (psi, Cx.normSq psi) := by
  have hU : linkU (0 : ℝ) dt = ⟨1, 0⟩ := by
    simp only [linkU, Cx.expNegI, zero_mul, hasCos_real, hasSin_real, Real.cos_zero, Real.sin_zero, neg_zero]
  have hz : zOf psi 0 gamma dt = Cx.smul (gamma * gamma / 2) psi := by
    rw [zOf, hU]
    apply Cx.ext' <;> simp only [Cx.mul, Cx.smul] <;> ring
  have hw : wOf psi (Cx.normSq psi) 0 eps gamma u dt lap
      = Cx.smul (1 + gamma * gamma / 2 * Cx.normSq psi) psi := by
    unfold wOf
    rw [hz, h, hU]
    apply Cx.ext' <;> simp only [Cx.mul, Cx.smul, Cx.add] <;> ring
  rw [stepSite, hz, hw]
  exact solveSite_collinear psi (div_nonneg (mul_self_nonneg gamma) (by norm_num))

end Tdgl
