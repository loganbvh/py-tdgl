/-
  `insertSorted` / `sortByKey` of Tdgl/H5.lean are Mathlib's `List.orderedInsert` / `List.insertionSort` for the relation
  "strictly smaller key"; permutation, membership, mapping of payloads and "sorted input is left alone" are Mathlib's.
  That relation is not total, so sortedness (which needs distinct keys) is proved here.
-/
import Mathlib.Data.List.Sort
import Mathlib.Data.String.Basic
import Tdgl.H5

namespace Tdgl.H5

variable {A B : Type}

/-- the order `sortByKey` sorts by -/
abbrev keyLt (x y : String × A) : Prop := x.1 < y.1

theorem insertSorted_eq (k : String) (a : A) (l : List (String × A)) :
    insertSorted k a l = l.orderedInsert keyLt (k, a) := by
  induction l with
  | nil => rfl
  | cons x l ih => simp only [insertSorted, List.orderedInsert_cons, ih]

theorem sortByKey_eq (l : List (String × A)) : sortByKey l = l.insertionSort keyLt := by
  induction l with
  | nil => rfl
  | cons x l ih =>
    show insertSorted x.1 x.2 (sortByKey l) = _
    rw [insertSorted_eq, ih, List.insertionSort_cons]

theorem sortByKey_perm (l : List (String × A)) : (sortByKey l).Perm l :=
  sortByKey_eq l ▸ List.perm_insertionSort _ l

theorem mem_sortByKey {l : List (String × A)} {e : String × A} : e ∈ sortByKey l ↔ e ∈ l :=
  (sortByKey_perm l).mem_iff

theorem sortByKey_map (f : A → B) (l : List (String × A)) :
    sortByKey (l.map (fun t => (t.1, f t.2))) = (sortByKey l).map (fun t => (t.1, f t.2)) := by
  rw [sortByKey_eq, sortByKey_eq]
  exact (List.map_insertionSort keyLt keyLt (fun t : String × A => (t.1, f t.2)) l (fun _ _ _ _ => Iff.rfl)).symm

theorem sortByKey_of_sorted {l : List (String × A)} (h : l.Pairwise keyLt) : sortByKey l = l :=
  sortByKey_eq l ▸ h.insertionSort_eq

/-- inserting a key that does not occur keeps a strictly key-sorted list strictly key-sorted -/
theorem pairwise_orderedInsert {l : List (String × A)} (x : String × A) (hs : l.Pairwise keyLt)
    (hx : ∀ e ∈ l, e.1 ≠ x.1) : (l.orderedInsert keyLt x).Pairwise keyLt := by
  induction l with
  | nil => simp
  | cons y l ih =>
    rw [List.pairwise_cons] at hs
    rw [List.orderedInsert_cons]
    split_ifs with h
    · exact List.pairwise_cons.2
        ⟨fun e he => (List.mem_cons.1 he).elim (· ▸ h) (fun he => lt_trans h (hs.1 e he)), List.pairwise_cons.2 hs⟩
    · -- `y` stays in front: it is below `x` (keys differ) and below the rest
      refine List.pairwise_cons.2 ⟨fun e he => ?_, ih hs.2 (fun e he => hx e (List.mem_cons_of_mem _ he))⟩
      rcases (List.mem_orderedInsert keyLt).1 he with rfl | he
      · exact lt_of_le_of_ne (not_lt.1 h) (hx y List.mem_cons_self)
      · exact hs.1 e he

theorem sortByKey_sorted {l : List (String × A)} (hk : (l.map (·.1)).Nodup) : (sortByKey l).Pairwise keyLt := by
  induction l with
  | nil => exact List.Pairwise.nil
  | cons x l ih =>
    rw [List.map_cons, List.nodup_cons] at hk
    rw [sortByKey_eq, List.insertionSort_cons, ← sortByKey_eq]
    exact pairwise_orderedInsert x (ih hk.2)
      (fun e he h => hk.1 (h ▸ List.mem_map_of_mem (mem_sortByKey.1 he)))

/-- **Characterisation** (distinct keys): `sortByKey l` is THE strictly key-sorted permutation of `l`. -/
theorem sortByKey_eq_iff {l l' : List (String × A)} (hk : (l.map (·.1)).Nodup) :
    sortByKey l = l' ↔ l'.Perm l ∧ l'.Pairwise keyLt :=
  ⟨fun h => h ▸ ⟨sortByKey_perm l, sortByKey_sorted hk⟩, fun h =>
    ((sortByKey_perm l).trans h.1.symm).eq_of_pairwise (fun _ _ _ _ hab hba => absurd hba (lt_asymm hab))
      (sortByKey_sorted hk) h.2⟩

theorem sortByKey_idem {l : List (String × A)} (hk : (l.map (·.1)).Nodup) :
    sortByKey (sortByKey l) = sortByKey l :=
  sortByKey_of_sorted (sortByKey_sorted hk)

/-- with distinct keys, two lists sort to the same list exactly when they are permutations of each other -/
theorem sortByKey_eq_sortByKey_iff {l₁ l₂ : List (String × A)} (hk : (l₁.map (·.1)).Nodup) :
    sortByKey l₁ = sortByKey l₂ ↔ l₁.Perm l₂ :=
  ⟨fun h => (sortByKey_perm l₁).symm.trans (h ▸ sortByKey_perm l₂), fun h =>
    (sortByKey_eq_iff hk).2 ⟨(sortByKey_perm l₂).trans h.symm,
      sortByKey_sorted ((h.map _).nodup_iff.1 hk)⟩⟩

end Tdgl.H5
