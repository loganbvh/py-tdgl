/- The `ℝ` interpretation of the model's two law-free classes. -/
import Mathlib.Analysis.SpecialFunctions.Trigonometric.Basic
import Mathlib.Analysis.SpecialFunctions.Sqrt
import Tdgl.Lemmas.Sums

noncomputable instance : HasSqrt ℝ := ⟨Real.sqrt⟩
noncomputable instance : HasTrig ℝ := ⟨Real.cos, Real.sin⟩

namespace Tdgl

@[simp] theorem hasSqrt_real (x : ℝ) : HasSqrt.sqrt x = Real.sqrt x := rfl
@[simp] theorem hasCos_real (x : ℝ) : HasTrig.cos x = Real.cos x := rfl
@[simp] theorem hasSin_real (x : ℝ) : HasTrig.sin x = Real.sin x := rfl

theorem Cx.normSq_nonneg (a : Cx ℝ) : 0 ≤ Cx.normSq a := by
  unfold Cx.normSq; nlinarith [mul_self_nonneg a.re, mul_self_nonneg a.im]

end Tdgl
