/-
  The retry loop of `adaptive_euler_step` (`eulerRetry`, `dtUsed` in Tdgl/Adaptive.lean): its four equations and what a
  returned step is.
-/
import Mathlib.Algebra.Group.Basic
import Mathlib.Tactic.Common
import Tdgl.Adaptive

namespace Tdgl
variable {K : Type} [Mul K] {ok : K → Bool} {adaptive : Bool} {mult : K} {t : K}

/-- an accepted attempt is used -/
theorem eulerRetry_of_ok (adaptive : Bool) (mult : K) (b : ℕ) (h : ok t = true) :
    eulerRetry ok adaptive mult b t = some t := by
  unfold eulerRetry
  rw [if_pos h]

/-- without adaptivity a refused attempt is final -/
theorem eulerRetry_fixed_of_not_ok (mult : K) (b : ℕ) (h : ok t = false) :
    eulerRetry ok false mult b t = none := by
  unfold eulerRetry
  rw [if_neg (by rw [h]; exact Bool.false_ne_true), if_pos rfl]

/-- out of budget -/
theorem eulerRetry_zero_of_not_ok (adaptive : Bool) (mult : K) (h : ok t = false) :
    eulerRetry ok adaptive mult 0 t = none := by
  unfold eulerRetry
  rw [if_neg (by rw [h]; exact Bool.false_ne_true)]
  split_ifs <;> rfl

/-- a refused attempt is retried with the step multiplied by `mult` -/
theorem eulerRetry_succ_of_not_ok (mult : K) (b : ℕ) (h : ok t = false) :
    eulerRetry ok true mult (b + 1) t = eulerRetry ok true mult b (t * mult) := by
  rw [eulerRetry, if_neg (by rw [h]; exact Bool.false_ne_true), if_neg (by decide)]

/-- without adaptivity the step used is the tentative one -/
theorem dtUsed_fixed {o : AdaptOpts K} {dt : K} (ha : o.adaptive = false) (h : dtUsed o ok t = some dt) : dt = t := by
  rw [dtUsed, ha] at h
  cases h0 : ok t with
  | true => rw [eulerRetry_of_ok _ _ _ h0] at h; exact (Option.some.inj h).symm
  | false => rw [eulerRetry_fixed_of_not_ok _ _ h0] at h; cases h

end Tdgl

namespace Tdgl
variable {K : Type} [Monoid K] {ok : K → Bool} {adaptive : Bool} {mult : K}

/-- **What the retry loop returns**: the first accepted attempt `t · mult^r`, within the budget, retried only if
    adaptive. -/
theorem eulerRetry_some : ∀ {b : ℕ} {t dt : K}, eulerRetry ok adaptive mult b t = some dt →
    ∃ r, r ≤ b ∧ dt = t * mult ^ r ∧ ok dt = true ∧
      (∀ j, j < r → ok (t * mult ^ j) = false) ∧ (0 < r → adaptive = true) := by
  have first : ∀ {b : ℕ} {t dt : K}, ok t = true → eulerRetry ok adaptive mult b t = some dt →
      ∃ r, r ≤ b ∧ dt = t * mult ^ r ∧ ok dt = true ∧
        (∀ j, j < r → ok (t * mult ^ j) = false) ∧ (0 < r → adaptive = true) := by
    intro b t dt h0 h
    rw [eulerRetry_of_ok _ _ _ h0, Option.some.injEq] at h
    exact ⟨0, Nat.zero_le _, by rw [← h, pow_zero, mul_one], h ▸ h0, fun j hj => absurd hj j.not_lt_zero,
      fun h => absurd h (Nat.lt_irrefl 0)⟩
  intro b
  induction b with
  | zero =>
    intro t dt h
    cases h0 : ok t with
    | true => exact first h0 h
    | false => rw [eulerRetry_zero_of_not_ok _ _ h0] at h; cases h
  | succ b ih =>
    intro t dt h
    cases h0 : ok t with
    | true => exact first h0 h
    | false =>
      cases adaptive with
      | false => rw [eulerRetry_fixed_of_not_ok _ _ h0] at h; cases h
      | true =>
        -- the attempt `r` counted from `t · mult` is the attempt `r + 1` counted from `t`
        rw [eulerRetry_succ_of_not_ok _ _ h0] at h
        obtain ⟨r, hr, hdt, hok, hall, -⟩ := ih h
        refine ⟨r + 1, Nat.succ_le_succ hr, by rw [hdt, pow_succ', mul_assoc], hok, fun j hj => ?_, fun _ => rfl⟩
        cases j with
        | zero => rw [pow_zero, mul_one]; exact h0
        | succ j => rw [pow_succ', ← mul_assoc]; exact hall j (Nat.lt_of_succ_lt_succ hj)

end Tdgl
