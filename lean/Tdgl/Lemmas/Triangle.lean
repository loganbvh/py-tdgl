/-
  Lemmas about the triangle geometry of Tdgl/Geometry.lean (`triArea2`, `dist2`, `mid`, `circumcentre`,
  `ccOffset`).  Everything about the coded circumcentre `O` of `(A, B, C)` rests on one computation,
  `circumcentre_atOffset`: `2·O = A + B + 2 s · perp(B − A)` with `s = ccOffset A B C`, and on
  `ccOffset_mul`: `s · 2T = (A − C)·(B − C)`.  The consequences are stated for *any* point `O` and number `s`
  related to `A, B` in that way (`AtOffset`), so that they are identities between polynomials.
-/
import Mathlib.Algebra.Field.Basic
import Mathlib.Tactic.Ring
import Mathlib.Tactic.LinearCombination
import Tdgl.Geometry

namespace Tdgl

variable {K : Type} [Field K]

theorem triArea2_cyclic (A B C : Pt K) : triArea2 B C A = triArea2 A B C := by
  simp only [triArea2]; ring

/-! ### points on the perpendicular bisector of `AB` -/

/-- `O` is the point of the perpendicular bisector of `AB` at the signed offset `s` (in units of `|AB|`, positive on
    the left of `A → B`): `2·O = A + B + 2 s · perp(B − A)`, written without division. -/
def AtOffset (A B O : Pt K) (s : K) : Prop :=
  2 * O.1 = A.1 + B.1 - 2 * s * (B.2 - A.2) ∧ 2 * O.2 = A.2 + B.2 + 2 * s * (B.1 - A.1)

theorem mid_atOffset (A B : Pt K) (h2 : (2 : K) ≠ 0) : AtOffset A B (mid A B) 0 := by
  constructor <;> rw [mid, mul_div_cancel₀ _ h2] <;> ring

namespace AtOffset
variable {A B O : Pt K} {s : K}

theorem dist2_eq (h : AtOffset A B O s) : dist2 O A = dist2 O B := by
  simp only [dist2]
  linear_combination (B.1 - A.1) * h.1 + (B.2 - A.2) * h.2

/-- … and `O` is as far from a third point `C` when `s · 2T = (A − C)·(B − C)`. -/
theorem dist2_eq_third (h : AtOffset A B O s) {C : Pt K}
    (hs : s * (2 * triArea2 A B C) = (A.1 - C.1) * (B.1 - C.1) + (A.2 - C.2) * (B.2 - C.2)) :
    dist2 O A = dist2 O C := by
  simp only [dist2, triArea2] at hs ⊢
  linear_combination (C.1 - A.1) * h.1 + (C.2 - A.2) * h.2 + hs

/-- half base times height: the triangle `(A, B, O)` has doubled area `s · |AB|²` -/
theorem triArea2_eq (h : AtOffset A B O s) (h2 : (2 : K) ≠ 0) : triArea2 A B O = s * dist2 A B := by
  refine mul_left_cancel₀ h2 ?_
  simp only [triArea2, dist2]
  linear_combination (B.1 - A.1) * h.2 - (B.2 - A.2) * h.1

end AtOffset

/-- `|P−A|² − |P−B|²` is affine in `P` (the equation of the bisector of `AB`), with gradient `2 (B − A)` -/
theorem dist2_sub_dist2 (P Q A B : Pt K) :
    (dist2 P A - dist2 P B) - (dist2 Q A - dist2 Q B)
      = 2 * ((B.1 - A.1) * (P.1 - Q.1) + (B.2 - A.2) * (P.2 - Q.2)) := by
  simp only [dist2]; ring

theorem mid_sub_left (A B : Pt K) (h2 : (2 : K) ≠ 0) :
    (mid A B).1 - A.1 = (B.1 - A.1) / 2 ∧ (mid A B).2 - A.2 = (B.2 - A.2) / 2 := by
  constructor <;> rw [mid, eq_div_iff h2, sub_mul, div_mul_cancel₀ _ h2] <;> ring

/-- a triangle on half an edge has half the area -/
theorem triArea2_mid_left (A B O : Pt K) (h2 : (2 : K) ≠ 0) :
    triArea2 A (mid A B) O = triArea2 A B O / 2 := by
  simp only [triArea2, mid_sub_left A B h2]; ring

theorem triArea2_mid_right (A O C : Pt K) (h2 : (2 : K) ≠ 0) :
    triArea2 A O (mid A C) = triArea2 A O C / 2 := by
  simp only [triArea2, mid_sub_left A C h2]; ring

/-- For any point `O`, the six triangles `X, mid X Y, O` and `X, O, mid X Z` tile `(A, B, C)` (signed areas). -/
theorem half_triangles_tile (A B C O : Pt K) (h2 : (2 : K) ≠ 0) :
    (triArea2 A (mid A B) O + triArea2 A O (mid A C)) + (triArea2 B (mid B C) O + triArea2 B O (mid B A))
      + (triArea2 C (mid C A) O + triArea2 C O (mid C B)) = triArea2 A B C := by
  simp only [triArea2_mid_left _ _ _ h2, triArea2_mid_right _ _ _ h2, ← add_div]
  rw [div_eq_iff h2]
  simp only [triArea2]; ring

/-- a homogeneous 2×2 system with non-zero determinant has only the zero solution -/
theorem eq_zero_of_det_ne_zero {a b c d x y : K} (h : a * d - c * b ≠ 0)
    (e1 : a * x + b * y = 0) (e2 : c * x + d * y = 0) : x = 0 ∧ y = 0 :=
  ⟨(mul_eq_zero.1 (show (a * d - c * b) * x = 0 by linear_combination d * e1 - b * e2)).resolve_left h,
   (mul_eq_zero.1 (show (a * d - c * b) * y = 0 by linear_combination a * e2 - c * e1)).resolve_left h⟩

/-- A non-degenerate triangle has at most one point equidistant from its three vertices. -/
theorem eq_of_equidistant (A B C P Q : Pt K) (h : triArea2 A B C ≠ 0) (h2 : (2 : K) ≠ 0)
    (hP : dist2 P A = dist2 P B ∧ dist2 P A = dist2 P C)
    (hQ : dist2 Q A = dist2 Q B ∧ dist2 Q A = dist2 Q C) : P = Q := by
  have e1 := dist2_sub_dist2 P Q A B
  have e2 := dist2_sub_dist2 P Q A C
  rw [hP.1, hQ.1, sub_self, sub_self, sub_zero, eq_comm, mul_eq_zero, or_iff_right h2] at e1
  rw [hP.2, hQ.2, sub_self, sub_self, sub_zero, eq_comm, mul_eq_zero, or_iff_right h2] at e2
  obtain ⟨x, y⟩ := eq_zero_of_det_ne_zero h e1 e2
  exact Prod.ext (sub_eq_zero.1 x) (sub_eq_zero.1 y)

/-! ### the coded circumcentre -/

theorem ccOffset_mul (A B C : Pt K) (h : triArea2 A B C ≠ 0) (h2 : (2 : K) ≠ 0) :
    ccOffset A B C * (2 * triArea2 A B C) = (A.1 - C.1) * (B.1 - C.1) + (A.2 - C.2) * (B.2 - C.2) :=
  div_mul_cancel₀ _ (mul_ne_zero h2 h)

/-- The coded circumcentre sits on the bisector of `AB` at the signed offset `ccOffset`.  (With `i = (2T)⁻¹` both
    sides of each equation are polynomials in the coordinates and `i`; they differ by a multiple of `2T·i − 1`.) -/
theorem circumcentre_atOffset (A B C : Pt K) (h : triArea2 A B C ≠ 0) (h2 : (2 : K) ≠ 0) :
    AtOffset A B (circumcentre A B C) (ccOffset A B C) := by
  have hi : 2 * triArea2 A B C * (2 * triArea2 A B C)⁻¹ = 1 := mul_inv_cancel₀ (mul_ne_zero h2 h)
  simp only [AtOffset, circumcentre, ccOffset, triArea2] at hi ⊢
  constructor
  · linear_combination (B.1 - A.1) * hi
  · linear_combination (B.2 - A.2) * hi

end Tdgl
