/-
  The recording loop `runStageF` (Tdgl/Handler.lean), and with it `runStage` (Tdgl/Runner.lean, its fault-free case), described
  once: `Recorded` is what the frames written so far and the pending buffer hold, `StageSpec` what every outcome looks like,
  `runStageF_spec` the one induction over the loop.

  The idea: a fault in the frame writer always ENDS the loop (an error propagates, an interrupt cancels), so at the top of every
  iteration `i` the file holds exactly the grid frames below `i`, whatever faults are still to come; faults only decide how the
  last iteration ends.  A run that ends at step `M` without losing a frame carries the labels `gridBelow k M ++ [M]`: frame `M`
  is written by the grid save when `M` is on the grid and by the final save when it is not.
-/
import Mathlib.Data.List.Basic
import Mathlib.Order.Basic
import Mathlib.Tactic.Common
import Tdgl.Runner
import Tdgl.Handler

namespace Tdgl

/-! ### the save grid -/

/-- the labels on the save grid below `b` -/
def gridBelow (k b : ℕ) : List ℕ := (List.range b).filter (fun j => j % k = 0)

theorem gridBelow_succ (k i : ℕ) : gridBelow k (i + 1) = gridBelow k i ++ if i % k = 0 then [i] else [] := by
  unfold gridBelow
  rw [List.range_succ, List.filter_append]
  by_cases h : i % k = 0 <;> simp [h]

theorem mem_gridBelow {k b j : ℕ} : j ∈ gridBelow k b ↔ j < b ∧ j % k = 0 := by
  simp [gridBelow]

/-- the form in which the statements of C05 / C15 spell the labels of a run that ended at step `M` -/
theorem gridBelow_succ_append (k M : ℕ) :
    gridBelow k (M + 1) ++ (if M % k = 0 then [] else [M]) = gridBelow k M ++ [M] := by
  rw [gridBelow_succ]
  by_cases h : M % k = 0 <;> simp [h]

theorem pairwise_gridBelow (k b : ℕ) : (gridBelow k b).Pairwise (· < ·) :=
  List.pairwise_lt_range.filter _

theorem pairwise_gridBelow_snoc (k M : ℕ) : (gridBelow k M ++ [M]).Pairwise (· < ·) := by
  rw [List.pairwise_append]
  exact ⟨pairwise_gridBelow k M, List.pairwise_singleton _ _,
    fun a ha b hb => List.mem_singleton.1 hb ▸ (mem_gridBelow.1 ha).1⟩

variable {K S R : Type}

theorem allRecs_snoc (fr : List (Frame K S R)) (i : ℕ) (t : K) (s : S) (buf : List R) :
    allRecs (fr ++ [mkFrame i t s buf]) = allRecs fr ++ if i = 0 then [] else buf := by
  unfold allRecs mkFrame
  split <;> simp

section recorded
variable [Add K] [OfNat K 0]

/-- What a list of frames `fr` and the pending buffer `buf` hold after `n` updates: the frames carry the labels `L` (there are
    none when the stage is not saved), each is the point of the trajectory that its label names, and frames and buffer together
    hold the records of the updates `0 … n-1`, once each and in order. -/
structure Recorded (upd : S → ℕ → K → K × S × R) (s0 : S) (save : Bool) (L : List ℕ) (n : ℕ)
    (buf : List R) (fr : List (Frame K S R)) : Prop where
  labels : fr.map (·.step) = if save = true then L else []
  onTraj : ∀ f ∈ fr, f.time = (traj upd s0 f.step).1 ∧ f.snap = (traj upd s0 f.step).2
  recs : save = true → allRecs fr ++ buf = (List.range n).map (recAt upd s0)

variable {upd : S → ℕ → K → K × S × R} {s0 : S} {save : Bool} {L : List ℕ} {n : ℕ} {buf : List R}
  {fr : List (Frame K S R)}

theorem Recorded.nil : Recorded upd s0 save [] 0 [] ([] : List (Frame K S R)) :=
  ⟨by simp, by simp, fun _ => rfl⟩

theorem Recorded.mem_labels (h : Recorded upd s0 save L n buf fr) {f : Frame K S R} (hf : f ∈ fr) :
    save = true ∧ f.step ∈ L := by
  have : f.step ∈ fr.map (·.step) := List.mem_map_of_mem hf
  rw [h.labels] at this
  split at this
  · exact ⟨‹_›, this⟩
  · cases this

/-- an unsaved stage has no frames, and that is all there is to say about it -/
theorem Recorded.unsaved {L' : List ℕ} {n' : ℕ} {buf' : List R} (h : Recorded upd s0 false L n buf fr) :
    Recorded upd s0 false L' n' buf' fr :=
  ⟨h.labels, h.onTraj, fun h' => Bool.noConfusion h'⟩

/-- one more update: its record goes to the buffer -/
theorem Recorded.push (h : Recorded upd s0 save L n buf fr) :
    Recorded upd s0 save L (n + 1) (buf ++ [recAt upd s0 n]) fr :=
  ⟨h.labels, h.onTraj, fun hs => by
    rw [List.range_succ, List.map_append, ← List.append_assoc, h.recs hs]; rfl⟩

/-- a frame written now: it takes the label `n` and the buffer (frame 0 takes none: the buffer is empty then) -/
theorem Recorded.snoc (h : Recorded upd s0 true L n buf fr) :
    Recorded upd s0 true (L ++ [n]) n [] (fr ++ [mkFrame n (traj upd s0 n).1 (traj upd s0 n).2 buf]) := by
  refine ⟨by simp [h.labels, mkFrame], fun f hf => ?_, fun _ => ?_⟩
  · rcases List.mem_append.1 hf with h1 | h1
    · exact h.onTraj f h1
    · exact List.mem_singleton.1 h1 ▸ ⟨rfl, rfl⟩
  · have hr := h.recs rfl
    rw [List.append_nil, allRecs_snoc]
    split
    · subst n
      rw [(List.append_eq_nil_iff.1 hr).1]; rfl
    · exact hr

/-- the frame times are the clock at the labels -/
theorem Recorded.map_time (h : Recorded upd s0 save L n buf fr) :
    fr.map (·.time) = (fr.map (·.step)).map (fun j => (traj upd s0 j).1) := by
  rw [List.map_map]
  exact List.map_congr_left (fun f hf => (h.onTraj f hf).1)

/-- the "save, then clear" head of iteration `i`, when the frame writer does not fail -/
theorem Recorded.head {k i : ℕ} (h : Recorded upd s0 save (gridBelow k i) i buf fr) :
    Recorded upd s0 save (gridBelow k (i + 1)) i (if i % k = 0 then [] else buf)
      (if i % k = 0 ∧ save = true then fr ++ [mkFrame i (traj upd s0 i).1 (traj upd s0 i).2 buf] else fr) := by
  rw [gridBelow_succ]
  by_cases hk : i % k = 0
  · cases save
    · rw [if_neg (fun h' : i % k = 0 ∧ false = true => Bool.noConfusion h'.2)]; exact h.unsaved
    · rw [if_pos hk, if_pos hk, if_pos ⟨hk, rfl⟩]; exact h.snoc
  · rw [if_neg hk, if_neg hk, if_neg (fun h' => hk h'.1), List.append_nil]; exact h

/-- the final save after iteration `M`'s head, when the frame writer does not fail: frame `M` is there exactly once -/
theorem Recorded.final {k M : ℕ} (h : Recorded upd s0 save (gridBelow k (M + 1)) M (if M % k = 0 then [] else buf) fr) :
    Recorded upd s0 save (gridBelow k M ++ [M]) M []
      (if save = true ∧ M % k ≠ 0 then
        fr ++ [mkFrame M (traj upd s0 M).1 (traj upd s0 M).2 (if M % k = 0 then [] else buf)] else fr) := by
  rw [gridBelow_succ] at h
  by_cases hk : M % k = 0
  · rw [if_neg (fun h' => h'.2 hk)]
    simpa only [if_pos hk] using h
  · cases save
    · rw [if_neg (fun h' : false = true ∧ M % k ≠ 0 => Bool.noConfusion h'.1)]; exact h.unsaved
    · rw [if_pos ⟨rfl, hk⟩]
      simp only [if_neg hk, List.append_nil] at h ⊢
      exact h.snoc

end recorded

/-! ### every outcome of the loop -/

variable [Add K] [LE K] [DecidableLE K] [OfNat K 0]

omit [OfNat K 0] in
/-- one iteration of `runStageF`, by `rfl`: `unfold runStageF` makes every file that calls it generate the equation lemmas of the
    structural recursion first, which costs more than the proofs that use them -/
theorem runStageF_succ (upd : S → ℕ → K → K × S × R) (flt : Faults) (stage : ℕ) (save : Bool) (k : ℕ) (T : K)
    (fuel i : ℕ) (t : K) (s : S) (buf : List R) (fr : List (Frame K S R)) (n : ℕ) :
    runStageF upd flt stage save k T (fuel + 1) i t s buf fr n =
      match (if i % k = 0 ∧ save = true then trySave flt n fr (mkFrame i t s buf) else (none, fr, n)) with
      | (some .error, fr', _) => .raised fr' .error
      | (some .interrupt, fr', n') => finalSave flt save k i t s (if i % k = 0 then [] else buf) fr' n' true
      | (none, fr', n') =>
        if T ≤ t then finalSave flt save k i t s (if i % k = 0 then [] else buf) fr' n' false
        else
          match flt.upd stage i with
          | some .error => .raised fr' .error
          | some .interrupt => finalSave flt save k i t s (if i % k = 0 then [] else buf) fr' n' true
          | none =>
            runStageF upd flt stage save k T fuel (i + 1) (t + (upd s i t).1) (upd s i t).2.1
              ((if i % k = 0 then [] else buf) ++ [(upd s i t).2.2]) fr' n' :=
  rfl

/-- the frames carried by an outcome (`C15.outcomeFrames`, which is defined downstream, is this function) -/
def StageOutcome.frames : StageOutcome K S R → List (Frame K S R)
  | .finished e _ => e.frames
  | .cancelled e _ => e.frames
  | .raised fr _ => fr
  | .outOfFuel => []

section spec
variable (upd : S → ℕ → K → K × S × R) (flt : Faults) (stage : ℕ) (save : Bool) (k : ℕ) (T : K) (s0 : S)

/-- iterations `0 … M-1` went through: the clock had not reached `T` and the update did not fail -/
def RunsTo (M : ℕ) : Prop := ∀ j < M, ¬ T ≤ (traj upd s0 j).1 ∧ flt.upd stage j = none

/-- the loop variables at the end are those of iteration `e.steps`, which was reached -/
def EndsAt (e : StageEnd K S R) : Prop :=
  RunsTo upd flt stage T s0 e.steps ∧ e.time = (traj upd s0 e.steps).1 ∧ e.state = (traj upd s0 e.steps).2

/-- **What an outcome of the loop looks like**, under any faults.
    * finished at step `M`: the clock reached `T` there for the first time, and NO frame is missing;
    * cancelled at step `M`: by an interrupt in update `M` (no frame is missing), or by an interrupt in the frame writer at the grid
      step `M` (frame `M` is missing, all earlier ones are there);
    * raised: the frames are the grid frames below `M` or `M + 1`, and a fault of that very kind was injected (in an update only an
      error propagates). -/
def StageSpec : StageOutcome K S R → Prop
  | .outOfFuel => True
  | .finished e _ => EndsAt upd flt stage T s0 e ∧ T ≤ (traj upd s0 e.steps).1 ∧
      Recorded upd s0 save (gridBelow k e.steps ++ [e.steps]) e.steps [] e.frames
  | .cancelled e _ => EndsAt upd flt stage T s0 e ∧
      ((¬ T ≤ (traj upd s0 e.steps).1 ∧ flt.upd stage e.steps = some .interrupt ∧
          Recorded upd s0 save (gridBelow k e.steps ++ [e.steps]) e.steps [] e.frames) ∨
       (e.steps % k = 0 ∧ save = true ∧ (∃ j, flt.save j = some .interrupt) ∧
          ∃ buf, Recorded upd s0 save (gridBelow k e.steps) e.steps buf e.frames))
  | .raised fr f => ∃ M b buf, RunsTo upd flt stage T s0 M ∧ (b = M ∨ b = M + 1) ∧
      Recorded upd s0 save (gridBelow k b) M buf fr ∧
      ((f = .error ∧ flt.upd stage M = some .error) ∨ ∃ j, flt.save j = some f)

variable {upd flt stage save k T s0}

omit [DecidableLE K] in
/-- ended at step `e.steps` by the stop test (`c = false`) or by an interrupt in the update (`c = true`), no frame missing -/
theorem StageSpec.ended {c : Bool} {e : StageEnd K S R} (n : ℕ) (he : EndsAt upd flt stage T s0 e)
    (hc : if c = true then ¬ T ≤ (traj upd s0 e.steps).1 ∧ flt.upd stage e.steps = some .interrupt
      else T ≤ (traj upd s0 e.steps).1)
    (hr : Recorded upd s0 save (gridBelow k e.steps ++ [e.steps]) e.steps [] e.frames) :
    StageSpec upd flt stage save k T s0 (if c = true then .cancelled e n else .finished e n) := by
  cases c
  · exact ⟨he, hc, hr⟩
  · exact ⟨he, Or.inl ⟨hc.1, hc.2, hr⟩⟩

omit [DecidableLE K] in
/-- the final save, from the state after the head of iteration `M` -/
theorem finalSave_spec {M : ℕ} {buf : List R} {fr : List (Frame K S R)} (n : ℕ) (c : Bool)
    (hrun : RunsTo upd flt stage T s0 M)
    (h : Recorded upd s0 save (gridBelow k (M + 1)) M (if M % k = 0 then [] else buf) fr)
    (hc : if c = true then ¬ T ≤ (traj upd s0 M).1 ∧ flt.upd stage M = some .interrupt else T ≤ (traj upd s0 M).1) :
    StageSpec upd flt stage save k T s0
      (finalSave flt save k M (traj upd s0 M).1 (traj upd s0 M).2 (if M % k = 0 then [] else buf) fr n c) := by
  have hfin := h.final
  unfold finalSave trySave
  by_cases hs : save = true ∧ M % k ≠ 0
  · rw [if_pos hs] at hfin ⊢
    cases hw : flt.save n with
    | some f => exact ⟨M, M + 1, _, hrun, Or.inr rfl, h, Or.inr ⟨n, hw⟩⟩
    | none => exact StageSpec.ended _ ⟨hrun, rfl, rfl⟩ hc hfin
  · rw [if_neg hs] at hfin ⊢
    exact StageSpec.ended _ ⟨hrun, rfl, rfl⟩ hc hfin

/-- **The loop, once.**  From the top of iteration `i` (reached, state on the trajectory, grid frames below `i` written) every
    outcome satisfies `StageSpec`. -/
theorem runStageF_spec_from : ∀ (fuel i : ℕ) (buf : List R) (fr : List (Frame K S R)) (n : ℕ),
    RunsTo upd flt stage T s0 i → Recorded upd s0 save (gridBelow k i) i buf fr →
    StageSpec upd flt stage save k T s0
      (runStageF upd flt stage save k T fuel i (traj upd s0 i).1 (traj upd s0 i).2 buf fr n) := by
  intro fuel
  induction fuel with
  | zero => intro i buf fr n _ _; trivial
  | succ fuel ih =>
    intro i buf fr n hrun h
    rw [runStageF_succ]
    -- the head of the iteration: either the frame writer is not called or succeeds, or it fails on a grid step
    have hhead : ∀ r, r = (if i % k = 0 ∧ save = true then
          trySave flt n fr (mkFrame i (traj upd s0 i).1 (traj upd s0 i).2 buf) else (none, fr, n)) →
        (r.1 = none ∧ Recorded upd s0 save (gridBelow k (i + 1)) i (if i % k = 0 then [] else buf) r.2.1) ∨
        (r.1 = flt.save n ∧ r.1 ≠ none ∧ r.2.1 = fr ∧ i % k = 0 ∧ save = true) := by
      intro r hr
      have hh := h.head
      split at hr
      · rename_i hg
        rw [if_pos hg] at hh
        unfold trySave at hr
        cases hw : flt.save n <;> rw [hw] at hr <;> subst hr
        · exact Or.inl ⟨rfl, hh⟩
        · exact Or.inr ⟨rfl, nofun, rfl, hg⟩
      · rename_i hg
        rw [if_neg hg] at hh
        subst hr
        exact Or.inl ⟨rfl, hh⟩
    generalize (if i % k = 0 ∧ save = true then
        trySave flt n fr (mkFrame i (traj upd s0 i).1 (traj upd s0 i).2 buf) else (none, fr, n)) = r at hhead
    obtain ⟨o, fr', n'⟩ := r
    rcases hhead _ rfl with ⟨ho, hmid⟩ | ⟨ho, hne, hfr, hg, hs⟩
    · simp only at ho hmid
      subst ho
      simp only
      by_cases hT : T ≤ (traj upd s0 i).1
      · rw [if_pos hT]
        exact finalSave_spec n' false hrun hmid hT
      · rw [if_neg hT]
        cases hu : flt.upd stage i with
        | none =>
          exact ih (i + 1) _ fr' n'
            (fun j hj => (Nat.lt_succ_iff_lt_or_eq.1 hj).elim (hrun j) (fun e => e ▸ ⟨hT, hu⟩)) hmid.push
        | some f =>
          cases f with
          | error => exact ⟨i, i + 1, _, hrun, Or.inr rfl, hmid, Or.inl ⟨rfl, hu⟩⟩
          | interrupt => exact finalSave_spec n' true hrun hmid ⟨hT, hu⟩
    · simp only at ho hne hfr
      subst ho hfr
      cases hw : flt.save n with
      | none => exact absurd hw hne
      | some f =>
        cases f with
        | error => exact ⟨i, i, buf, hrun, Or.inl rfl, h, Or.inr ⟨n, hw⟩⟩
        | interrupt =>
          -- on a grid step the final save writes nothing
          simp only [finalSave, if_neg (fun h' : save = true ∧ i % k ≠ 0 => h'.2 hg)]
          exact ⟨⟨hrun, rfl, rfl⟩, Or.inr ⟨hg, hs, ⟨n, hw⟩, buf, h⟩⟩

omit [DecidableLE K] in
/-- what `StageSpec` says of the frames alone: they are `Recorded` under labels that increase strictly and lie on the save grid,
    the last one possibly excepted when the stage finished or was cancelled (its label is then the step the stage ended at) -/
theorem StageSpec.frames {o : StageOutcome K S R} (h : StageSpec upd flt stage save k T s0 o) :
    ∃ L n buf, Recorded upd s0 save L n buf o.frames ∧ L.Pairwise (· < ·) ∧
      ∀ j ∈ L, j % k = 0 ∨ ∃ e m, (o = .finished e m ∨ o = .cancelled e m) ∧ j = e.steps := by
  have grid : ∀ b j, j ∈ gridBelow k b → j % k = 0 ∨ ∃ e m, (o = .finished e m ∨ o = .cancelled e m) ∧ j = e.steps :=
    fun b j hj => Or.inl (mem_gridBelow.1 hj).2
  have snoc : ∀ (e : StageEnd K S R) m, o = .finished e m ∨ o = .cancelled e m → ∀ j ∈ gridBelow k e.steps ++ [e.steps],
      j % k = 0 ∨ ∃ e m, (o = .finished e m ∨ o = .cancelled e m) ∧ j = e.steps :=
    fun e m ho j hj => (List.mem_append.1 hj).elim (grid _ j) (fun hj => Or.inr ⟨e, m, ho, List.mem_singleton.1 hj⟩)
  cases o with
  | outOfFuel => exact ⟨[], 0, [], Recorded.nil, List.Pairwise.nil, nofun⟩
  | finished e m => exact ⟨_, _, _, h.2.2, pairwise_gridBelow_snoc k _, snoc e m (Or.inl rfl)⟩
  | cancelled e m =>
    rcases h.2 with ⟨_, _, hr⟩ | ⟨_, _, _, buf, hr⟩
    · exact ⟨_, _, _, hr, pairwise_gridBelow_snoc k _, snoc e m (Or.inr rfl)⟩
    · exact ⟨_, _, buf, hr, pairwise_gridBelow k _, grid _⟩
  | raised fr f =>
    obtain ⟨M, b, buf, _, _, hr, _⟩ := h
    exact ⟨_, _, buf, hr, pairwise_gridBelow k b, grid b⟩

/-- every outcome of a stage satisfies `StageSpec` -/
theorem runStageF_spec (upd : S → ℕ → K → K × S × R) (flt : Faults) (stage : ℕ) (save : Bool) (k : ℕ) (T : K)
    (fuel : ℕ) (s0 : S) :
    StageSpec upd flt stage save k T s0 (runStageF upd flt stage save k T fuel 0 0 s0 [] [] 0) :=
  runStageF_spec_from fuel 0 [] [] 0 (fun _ hj => absurd hj (Nat.not_lt_zero _)) Recorded.nil

end spec

/-! ### the fault-free loop is `runStage` -/

omit [OfNat K 0] in
theorem runStage_succ (upd : S → ℕ → K → K × S × R) (save : Bool) (k : ℕ) (T : K)
    (fuel i : ℕ) (t : K) (s : S) (buf : List R) (fr : List (Frame K S R)) :
    runStage upd save k T (fuel + 1) i t s buf fr =
      if T ≤ t then
        some ⟨i, t, s,
          if save = true ∧ i % k ≠ 0 then
            (if i % k = 0 ∧ save = true then fr ++ [mkFrame i t s buf] else fr) ++
              [mkFrame i t s (if i % k = 0 then [] else buf)]
          else (if i % k = 0 ∧ save = true then fr ++ [mkFrame i t s buf] else fr)⟩
      else
        runStage upd save k T fuel (i + 1) (t + (upd s i t).1) (upd s i t).2.1
          ((if i % k = 0 then [] else buf) ++ [(upd s i t).2.2])
          (if i % k = 0 ∧ save = true then fr ++ [mkFrame i t s buf] else fr) :=
  rfl

/-- the end of a finished stage, if it finished -/
def StageOutcome.finished? : StageOutcome K S R → Option (StageEnd K S R)
  | .finished e _ => some e
  | _ => none

omit [OfNat K 0] in
theorem runStageF_noFaults (upd : S → ℕ → K → K × S × R) (stage : ℕ) (save : Bool) (k : ℕ) (T : K) :
    ∀ (fuel i : ℕ) (t : K) (s : S) (buf : List R) (fr : List (Frame K S R)) (n : ℕ),
      (runStageF upd noFaults stage save k T fuel i t s buf fr n).finished? = runStage upd save k T fuel i t s buf fr := by
  intro fuel
  induction fuel with
  | zero => intro i t s buf fr n; rfl
  | succ fuel ih =>
    intro i t s buf fr n
    rw [runStageF_succ, runStage_succ]
    simp only [noFaults, trySave]
    by_cases hc : i % k = 0 ∧ save = true
    · have hn : ¬ (save = true ∧ i % k ≠ 0) := fun h => h.2 hc.1
      simp only [if_pos hc]
      by_cases hT : T ≤ t
      · simp only [if_pos hT, finalSave, if_neg hn]; rfl
      · simp only [if_neg hT]; exact ih _ _ _ _ _ _
    · simp only [if_neg hc]
      by_cases hT : T ≤ t
      · simp only [if_pos hT, finalSave, trySave]
        by_cases hn : save = true ∧ i % k ≠ 0
        · simp only [if_pos hn]; rfl
        · simp only [if_neg hn]; rfl
      · simp only [if_neg hT]; exact ih _ _ _ _ _ _

/-- **A finished stage of `runStage`**: it stopped at the first step whose clock reached `T`, its loop variables are those of
    the trajectory there, and its frames are `Recorded` with no frame missing. -/
theorem runStage_spec {upd : S → ℕ → K → K × S × R} {save : Bool} {k : ℕ} {T : K} {fuel : ℕ} {s0 : S}
    {e : StageEnd K S R} (h : runStage upd save k T fuel 0 0 s0 [] [] = some e) :
    (T ≤ (traj upd s0 e.steps).1 ∧ ∀ j < e.steps, ¬ T ≤ (traj upd s0 j).1) ∧
    e.time = (traj upd s0 e.steps).1 ∧ e.state = (traj upd s0 e.steps).2 ∧
    Recorded upd s0 save (gridBelow k e.steps ++ [e.steps]) e.steps [] e.frames := by
  have hs := runStageF_spec upd noFaults 0 save k T fuel s0
  rw [← runStageF_noFaults upd 0 save k T fuel 0 0 s0 [] [] 0] at h
  cases ho : runStageF upd noFaults 0 save k T fuel 0 0 s0 [] [] 0 <;> rw [ho] at h hs <;> cases h
  exact ⟨⟨hs.2.1, fun j hj => (hs.1.1 j hj).1⟩, hs.1.2.1, hs.1.2.2, hs.2.2⟩


end Tdgl
