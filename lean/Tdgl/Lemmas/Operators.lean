/-
  What the proofs use of the operators of `Tdgl/Operators.lean`, so that no property file unfolds them again.
  Real operators (any field, any mesh): the divergence is linear, the Laplacian is the divergence of the gradient, and
  the divergence is minus the adjoint of the difference along edges (`sum_area_mul_divRow`, the discrete Gauss theorem);
  everything the property files say about area-weighted sums of `divRow` / `lapRow` follows from the last one.
  Covariant Laplacian: its free rows read in `ℂ`.  `setMany`: which entries it writes.
-/
import Mathlib.Algebra.BigOperators.Group.Finset.Basic
import Mathlib.Algebra.BigOperators.Ring.Finset
import Mathlib.Algebra.Field.Basic
import Mathlib.Tactic.Ring
import Mathlib.Tactic.FieldSimp
import Tdgl.Lemmas.Sums
import Tdgl.Operators

open Finset

namespace Tdgl

variable {K : Type}

theorem FVMesh.WF.e0_lt {m : FVMesh K} (hm : m.WF) (e : ℕ) (he : e < m.E) : m.e0 e < m.n :=
  lt_trans (hm.lt e he) (hm.inRange e he)

variable [Field K] (m : FVMesh K)

/-! ### divergence -/

theorem divRow_congr {F G : ℕ → K} (h : ∀ e, e < m.E → F e = G e) (r : ℕ) : divRow m F r = divRow m G r := by
  unfold divRow
  rw [sumTo_eq, sumTo_eq]
  exact Finset.sum_congr rfl fun e he => by rw [h e (mem_range.1 he)]

theorem divRow_sub (F G : ℕ → K) (r : ℕ) :
    divRow m (fun e => F e - G e) r = divRow m F r - divRow m G r := by
  unfold divRow
  rw [sumTo_eq, sumTo_eq, sumTo_eq, ← Finset.sum_sub_distrib]
  refine Finset.sum_congr rfl fun e _ => ?_
  split_ifs <;> ring

theorem divRow_zero (r : ℕ) : divRow m (fun _ => 0) r = 0 := by
  have h := divRow_sub m (fun _ => 0) (fun _ => 0) r
  rwa [sub_self, sub_self] at h

theorem gradEdge_eq (g : ℕ → K) (e : ℕ) : gradEdge m g e = (g (m.e1 e) - g (m.e0 e)) / m.len e := by
  unfold gradEdge
  ring

/-- The Laplacian is the divergence of the gradient (row by row, any vector, any mesh). -/
theorem lapRow_eq_divRow_gradEdge (g : ℕ → K) (r : ℕ) : lapRow m g r = divRow m (gradEdge m g) r := by
  unfold lapRow divRow gradEdge FVMesh.w
  rw [sumTo_eq, sumTo_eq]
  refine Finset.sum_congr rfl fun e _ => ?_
  split_ifs <;> ring

/-- a site function that takes the same value at the two ends of every edge is harmonic -/
theorem lapRow_eq_zero {g : ℕ → K} (h : ∀ e, e < m.E → g (m.e1 e) = g (m.e0 e)) (r : ℕ) : lapRow m g r = 0 := by
  rw [lapRow_eq_divRow_gradEdge, divRow_congr m (G := fun _ => 0), divRow_zero]
  intro e he
  rw [gradEdge_eq, h e he, sub_self, zero_div]

/-- Discrete Gauss theorem: in the area-weighted pairing the divergence is minus the adjoint of the difference along
    edges, `Σ_r a_r c_r (D F)_r = − Σ_e s_e (c_{e1} − c_{e0}) F_e`. -/
theorem sum_area_mul_divRow {m : FVMesh K} (hm : m.WF) (ha : ∀ r, r < m.n → m.area r ≠ 0) (c F : ℕ → K) :
    ∑ r ∈ range m.n, m.area r * c r * divRow m F r
      = - ∑ e ∈ range m.E, m.dual e * (c (m.e1 e) - c (m.e0 e)) * F e := by
  unfold divRow
  simp_rw [sumTo_eq]
  rw [sum_mul_scatter hm.e0_lt hm.inRange, ← Finset.sum_neg_distrib]
  refine Finset.sum_congr rfl fun e he => ?_
  have he := mem_range.1 he
  have h0 := ha _ (hm.e0_lt e he)
  have h1 := ha _ (hm.inRange e he)
  field_simp
  ring

theorem neuRow_zero (r : ℕ) : neuRow m (fun _ => 0) r = 0 := by
  unfold neuRow
  rw [sumTo_eq]
  exact Finset.sum_eq_zero fun b _ => by simp only [mul_zero, ite_self, add_zero]

/-! ### the covariant Laplacian (over `ℝ`, read in `ℂ`) -/

/-- a free row of the covariant Laplacian, in `ℂ`: every edge at `r` brings `w_e / a_r` times the covariant difference
    towards `r` -/
theorem toC_clapRow_free (m : FVMesh ℝ) (U psi : ℕ → Cx ℝ) (r : ℕ) :
    toC (clapRow m (fun _ => false) U psi r) = ∑ e ∈ range m.E,
      ((if m.e0 e = r then ((m.w e / m.area (m.e0 e) : ℝ) : ℂ)
          * (toC (U e) * toC (psi (m.e1 e)) - toC (psi (m.e0 e))) else 0)
       + (if m.e1 e = r then ((m.w e / m.area (m.e1 e) : ℝ) : ℂ)
          * ((starRingEnd ℂ) (toC (U e)) * toC (psi (m.e0 e)) - toC (psi (m.e1 e))) else 0)) := by
  unfold clapRow
  simp only [Bool.false_eq_true, if_false, toC_csumTo, toC_add, apply_ite toC, toC_mul, toC_smul, toC_conj, toC_zero]
  refine Finset.sum_congr rfl fun e _ => ?_
  split_ifs <;> push_cast <;> ring

/-! ### `setMany` (scipy's `M[rows, cols] = vals` under a mask) -/

section setMany
variable {K : Type} (M : ℕ → ℕ → Cx K) (rows cols : ℕ → ℕ) (vals : ℕ → Cx K) (keep : ℕ → Bool) (L i j : ℕ)

/-- no kept position addresses `(i, j)`: the entry is untouched -/
theorem setMany_none (h : ∀ t, t < L → ¬ (keep t = true ∧ rows t = i ∧ cols t = j)) :
    setMany M rows cols vals keep L i j = M i j := by
  induction L with
  | zero => rfl
  | succ L ih =>
    rw [setMany, if_neg (h L (Nat.lt_succ_self L))]
    exact ih fun t ht => h t (Nat.lt_succ_of_lt ht)

/-- some kept position addresses `(i, j)` and all of those carry the value `v` -/
theorem setMany_match (v : Cx K) (hex : ∃ t, t < L ∧ (keep t = true ∧ rows t = i ∧ cols t = j))
    (hval : ∀ s, s < L → (keep s = true ∧ rows s = i ∧ cols s = j) → vals s = v) :
    setMany M rows cols vals keep L i j = v := by
  induction L with
  | zero => obtain ⟨t, ht, _⟩ := hex; exact absurd ht (Nat.not_lt_zero t)
  | succ L ih =>
    rw [setMany]
    by_cases hL : keep L = true ∧ rows L = i ∧ cols L = j
    · rw [if_pos hL]; exact hval L (Nat.lt_succ_self L) hL
    · rw [if_neg hL]
      refine ih ?_ fun s hs hp => hval s (Nat.lt_succ_of_lt hs) hp
      obtain ⟨t, ht, hp⟩ := hex
      rcases Nat.lt_succ_iff_lt_or_eq.mp ht with h | rfl
      · exact ⟨t, h, hp⟩
      · exact absurd hp hL

/-- `setMany` reads the old matrix only at the queried position -/
theorem setMany_congr (M' : ℕ → ℕ → Cx K) (h : M i j = M' i j) :
    setMany M rows cols vals keep L i j = setMany M' rows cols vals keep L i j := by
  induction L with
  | zero => exact h
  | succ L ih => simp only [setMany, ih]

end setMany

end Tdgl
