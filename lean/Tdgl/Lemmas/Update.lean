/-
  What the whole-mesh step, the whole update and the runs of Tdgl/Update.lean and Tdgl/AdaptiveRun.lean ARE, said once:
  each definition gets its equation in terms of `Option.map` / `Option.bind` and its `= some` / `= none`
  characterisation, over an arbitrary scalar type.  `OptRel` lifts a relation to the answers of two partial runs
  ("both refused, or both answered with related values"); the theorems that compare two runs are stated with a
  `match` of exactly that shape and are obtained from `OptRel` by rewriting with the two equations.
-/
import Mathlib.Data.Option.Basic
import Mathlib.Data.List.Basic
import Mathlib.Tactic.Common
import Tdgl.Update
import Tdgl.AdaptiveRun
import Tdgl.Lemmas.Retry

namespace Tdgl

/-! ### two partial computations that fail together -/

/-- both refused, or both answered with related values; a statement written as a `match` on the two answers is
    reached by rewriting with the equations of the case at hand, after which the `match` reduces -/
def OptRel {α β : Type} (R : α → β → Prop) (x : Option α) (y : Option β) : Prop :=
  (x = none ∧ y = none) ∨ ∃ a b, x = some a ∧ y = some b ∧ R a b

namespace OptRel
variable {α β α' β' : Type} {R : α → β → Prop} {Q : α' → β' → Prop} {x : Option α} {y : Option β}

theorem some {a : α} {b : β} (h : R a b) : OptRel R (some a) (some b) := Or.inr ⟨a, b, rfl, rfl, h⟩

theorem bind {f : α → Option α'} {g : β → Option β'} (h : OptRel R x y)
    (hfg : ∀ a b, R a b → OptRel Q (f a) (g b)) : OptRel Q (x.bind f) (y.bind g) := by
  rcases h with ⟨rfl, rfl⟩ | ⟨a, b, rfl, rfl, h⟩
  · exact Or.inl ⟨rfl, rfl⟩
  · exact hfg a b h

theorem map {f : α → α'} {g : β → β'} (h : OptRel R x y) (hfg : ∀ a b, R a b → Q (f a) (g b)) :
    OptRel Q (x.map f) (y.map g) := by
  rcases h with ⟨rfl, rfl⟩ | ⟨a, b, rfl, rfl, h⟩
  · exact Or.inl ⟨rfl, rfl⟩
  · exact some (hfg a b h)

/-- weaken the relation, knowing which answers it is about -/
theorem imp {R' : α → β → Prop} (h : OptRel R x y) (hR : ∀ a b, x = .some a → y = .some b → R a b → R' a b) :
    OptRel R' x y := by
  rcases h with h | ⟨a, b, hx, hy, h⟩
  · exact Or.inl h
  · exact Or.inr ⟨a, b, hx, hy, hR a b hx hy h⟩

/-- one computation, twice -/
theorem same {R : α → α → Prop} {x : Option α} (h : ∀ a, R a a) : OptRel R x x := by
  cases x
  · exact Or.inl ⟨rfl, rfl⟩
  · exact some (h _)

/-- two images of one computation -/
theorem of_maps {γ : Type} {x : Option γ} {f : γ → α} {g : γ → β} (h : ∀ c, R (f c) (g c)) :
    OptRel R (x.map f) (x.map g) := by
  cases x
  · exact Or.inl ⟨rfl, rfl⟩
  · exact some (h _)

end OptRel

variable {K : Type} [Add K] [Sub K] [Mul K] [Div K] [Neg K]
  [OfNat K 0] [OfNat K 1] [OfNat K 2] [OfNat K 4] [LT K] [DecidableLT K] [HasSqrt K] [HasTrig K]

/-! ### the Euler step over all sites -/

theorem all_isSome_iff {α : Type} (n : ℕ) (f : ℕ → Option α) :
    (List.range n).all (fun r => (f r).isSome) = true ↔ ∀ r, r < n → (f r).isSome = true := by
  simp only [List.all_eq_true, List.mem_range]

section euler
variable (m : FVMesh K) (fixed : ℕ → Bool) (tp : Option (Cx K)) (U psi : ℕ → Cx K) (a mu eps : ℕ → K)
  (gamma u dt : K)

theorem eulerPinnedFn_eq_some_iff (out : ℕ → Cx K × K) :
    eulerPinnedFn m fixed tp U psi a mu eps gamma u dt = some out ↔
      (∀ r, r < m.n → (eulerSite m fixed U psi a mu eps gamma u dt r).isSome = true) ∧
      out = fun r => pinSite fixed tp r ((eulerSite m fixed U psi a mu eps gamma u dt r).getD (psi r, a r)) := by
  unfold eulerPinnedFn
  rw [← all_isSome_iff]
  split_ifs with h
  · simp only [Option.some.injEq, h, true_and, eq_comm]
  · simp only [reduceCtorEq, h, false_and]

theorem eulerPinnedFn_isSome :
    (eulerPinnedFn m fixed tp U psi a mu eps gamma u dt).isSome = true ↔
      ∀ r, r < m.n → (eulerSite m fixed U psi a mu eps gamma u dt r).isSome = true := by
  unfold eulerPinnedFn
  rw [← all_isSome_iff]
  split_ifs with h <;> simp only [Option.isSome_some, Option.isSome_none, h, Bool.false_eq_true]

variable {m fixed tp U psi a mu eps gamma u dt}

/-- an answered step, site by site: inside the mesh the pinned answer of the site -/
theorem eulerPinnedFn_site {out : ℕ → Cx K × K}
    (h : eulerPinnedFn m fixed tp U psi a mu eps gamma u dt = some out) {r : ℕ} (hr : r < m.n) :
    ∃ v, eulerSite m fixed U psi a mu eps gamma u dt r = some v ∧ out r = pinSite fixed tp r v := by
  obtain ⟨hall, rfl⟩ := (eulerPinnedFn_eq_some_iff ..).mp h
  obtain ⟨v, hv⟩ := Option.isSome_iff_exists.mp (hall r hr)
  exact ⟨v, hv, by simp only [hv, Option.getD_some]⟩

variable (m fixed U psi a mu eps gamma u dt)

/-- the un-pinned step is the pinned one with nothing pinned, order parameter only -/
theorem eulerFn_eq :
    eulerFn m fixed U psi a mu eps gamma u dt
      = (eulerPinnedFn m fixed none U psi a mu eps gamma u dt).map (fun out r => (out r).1) := by
  unfold eulerFn eulerPinnedFn
  split_ifs <;> rfl

end euler

/-- **Transport along a site-wise map.**  If every site answer of a second step is the image under `φ r` of the
    site answer of the first, `φ r` commutes with the re-imposition of the terminal value, and the values kept
    beyond the mesh correspond, then the whole second step is the image of the first. -/
theorem eulerPinnedFn_map (φ : ℕ → Cx K × K → Cx K × K) {m : FVMesh K} {fixed : ℕ → Bool} {tp : Option (Cx K)}
    {U U' psi psi' : ℕ → Cx K} {a a' mu mu' eps eps' : ℕ → K} {gamma gamma' u u' dt dt' : K}
    (hsite : ∀ r, eulerSite m fixed U' psi' a' mu' eps' gamma' u' dt' r
      = (eulerSite m fixed U psi a mu eps gamma u dt r).map (φ r))
    (hpin : ∀ r px, pinSite fixed tp r (φ r px) = φ r (pinSite fixed tp r px))
    (hpad : ∀ r, m.n ≤ r → (psi' r, a' r) = φ r (psi r, a r)) :
    eulerPinnedFn m fixed tp U' psi' a' mu' eps' gamma' u' dt'
      = (eulerPinnedFn m fixed tp U psi a mu eps gamma u dt).map (fun out r => φ r (out r)) := by
  unfold eulerPinnedFn
  simp only [hsite, Option.isSome_map]
  split_ifs with hall
  · simp only [Option.map_some, Option.some.injEq]
    funext r
    rw [← hpin]
    cases hr : eulerSite m fixed U psi a mu eps gamma u dt r with
    | some px => rfl
    | none =>
      -- a refused site of an answered step lies beyond the mesh
      have hn : m.n ≤ r := by
        by_contra hlt
        have := (all_isSome_iff _ _).mp hall r (Nat.lt_of_not_le hlt)
        rw [hr] at this
        cases this
      simp only [Option.map_none, Option.getD_none, hpad r hn]
  · rfl

/-! ### one update at a fixed step -/

section step
variable (m : FVMesh K) (fixed : ℕ → Bool) (tp : Option (Cx K)) (U : ℕ → Cx K) (solve : (ℕ → K) → (ℕ → K))
  (eps : ℕ → K) (gamma u dt : K) (mb : ℕ → K)

/-- the state `solve_for_observables` leaves (static applied potential) once the order parameter is `psi'` -/
def obsState (psi' : ℕ → Cx K) : MState K :=
  let o := observables m solve U psi' (fun _ => 0) mb
  ⟨psi', o.1, o.2.1, o.2.2⟩

theorem fullStepP_eq (s : MState K) :
    fullStepP m fixed tp U solve eps gamma u dt mb s
      = (eulerPinnedFn m fixed tp U s.psi (fun r => absSq (s.psi r)) s.mu eps gamma u dt).map
          (fun out => obsState m U solve mb (fun r => (out r).1)) := by
  unfold fullStepP
  cases eulerPinnedFn m fixed tp U s.psi (fun r => absSq (s.psi r)) s.mu eps gamma u dt <;> rfl

/-- the un-pinned update is the pinned one with `terminal_psi = None`, whatever sites are marked -/
theorem fullStep_eq (s : MState K) :
    fullStep m fixed U solve eps gamma u dt mb s = fullStepP m fixed none U solve eps gamma u dt mb s := by
  unfold fullStep
  rw [fullStepP_eq, eulerFn_eq]
  cases eulerPinnedFn m fixed none U s.psi (fun r => absSq (s.psi r)) s.mu eps gamma u dt <;> rfl

theorem runStepsP_succ (k : ℕ) (s : MState K) :
    runStepsP m fixed tp U solve eps gamma u dt mb (k + 1) s
      = (fullStepP m fixed tp U solve eps gamma u dt mb s).bind
          (runStepsP m fixed tp U solve eps gamma u dt mb k) := by
  rw [runStepsP]
  cases fullStepP m fixed tp U solve eps gamma u dt mb s <;> rfl

theorem runSteps_eq (k : ℕ) (s : MState K) :
    runSteps m fixed U solve eps gamma u dt mb k s = runStepsP m fixed none U solve eps gamma u dt mb k s := by
  induction k generalizing s with
  | zero => rfl
  | succ k ih =>
    rw [runSteps, runStepsP, fullStep_eq]
    cases fullStepP m fixed none U solve eps gamma u dt mb s with
    | none => rfl
    | some s' => exact ih s'

end step

/-- what every answered update establishes holds after a run of at least one update -/
theorem runStepsP_last {P : MState K → Prop} {m : FVMesh K} {fixed : ℕ → Bool} {tp : Option (Cx K)}
    {U : ℕ → Cx K} {solve : (ℕ → K) → (ℕ → K)} {eps : ℕ → K} {gamma u dt : K} {mb : ℕ → K}
    (hstep : ∀ s s', fullStepP m fixed tp U solve eps gamma u dt mb s = some s' → P s') (k : ℕ) :
    ∀ s s', runStepsP m fixed tp U solve eps gamma u dt mb (k + 1) s = some s' → P s' := by
  induction k with
  | zero =>
    intro s s' h
    rw [runStepsP_succ] at h
    obtain ⟨t, ht, h⟩ := Option.bind_eq_some_iff.mp h
    exact hstep s s' (by rw [ht, ← h]; rfl)
  | succ k ih =>
    intro s s' h
    rw [runStepsP_succ] at h
    obtain ⟨t, -, h⟩ := Option.bind_eq_some_iff.mp h
    exact ih t s' h

/-- **Runs that fail together.**  If one update of a second run (other links, other solver) answers a related state
    whenever one update of the first does, and both refuse together, the same holds for any number of updates. -/
theorem runStepsP_rel {R : MState K → MState K → Prop} {m : FVMesh K} {fixed : ℕ → Bool} {tp : Option (Cx K)}
    {U U' : ℕ → Cx K} {solve solve' : (ℕ → K) → (ℕ → K)} {eps : ℕ → K} {gamma u dt : K} {mb : ℕ → K}
    (hstep : ∀ s s', R s s' → OptRel R (fullStepP m fixed tp U solve eps gamma u dt mb s)
      (fullStepP m fixed tp U' solve' eps gamma u dt mb s')) (k : ℕ) :
    ∀ s s', R s s' → OptRel R (runStepsP m fixed tp U solve eps gamma u dt mb k s)
      (runStepsP m fixed tp U' solve' eps gamma u dt mb k s') := by
  induction k with
  | zero => exact fun s s' h => .some h
  | succ k ih =>
    intro s s' h
    rw [runStepsP_succ, runStepsP_succ]
    exact (hstep s s' h).bind ih

/-! ### the adaptive update and runs of it -/

section adaptive
variable [NatCast K]
variable (m : FVMesh K) (fixed : ℕ → Bool) (tp : Option (Cx K)) (U : ℕ → Cx K) (solve : (ℕ → K) → (ℕ → K))
  (eps : ℕ → K) (gamma u : K) (mb : ℕ → K) (o : AdaptOpts K)

/-- the whole-mesh Euler step of the adaptive update at the trial step `dt` -/
abbrev trialStep (s : AState K) (dt : K) : Option (ℕ → Cx K × K) :=
  eulerPinnedFn m fixed tp U s.phys.psi (fun r => absSq (s.phys.psi r)) s.phys.mu eps gamma u dt

/-- the state an adaptive update answers with, from the Euler answer `out` at the accepted step `dt` -/
def afterStep (i : ℕ) (s : AState K) (dt : K) (out : ℕ → Cx K × K) : AState K :=
  ⟨obsState m U solve mb (fun r => (out r).1),
    adaptAfter o s.ctl i dt (maxChange m.n (fun r => (out r).2) (fun r => absSq (s.phys.psi r)))⟩

theorem adaptiveStep_eq (i : ℕ) (s : AState K) :
    adaptiveStep m fixed tp U solve eps gamma u mb o i s
      = (dtUsed o (fun dt => (trialStep m fixed tp U eps gamma u s dt).isSome) s.ctl.tentative).bind fun dt =>
          (trialStep m fixed tp U eps gamma u s dt).map fun out =>
            (dt, afterStep m U solve mb o i s dt out) := by
  unfold adaptiveStep trialStep
  simp only
  split
  · next h => rw [h]; rfl
  · next dt h =>
    rw [h, Option.bind_some]
    split
    · next h2 => rw [h2]; rfl
    · next out h2 => rw [h2]; rfl

/-- **An answered adaptive update**: the retry loop ended with `dt`, the Euler step at `dt` answered `out`, and the
    new state is built from `out`. -/
theorem adaptiveStep_eq_some_iff (i : ℕ) (s s' : AState K) (dt : K) :
    adaptiveStep m fixed tp U solve eps gamma u mb o i s = some (dt, s') ↔
      dtUsed o (fun dt => (trialStep m fixed tp U eps gamma u s dt).isSome) s.ctl.tentative = some dt ∧
      ∃ out, trialStep m fixed tp U eps gamma u s dt = some out ∧ s' = afterStep m U solve mb o i s dt out := by
  rw [adaptiveStep_eq]
  simp only [Option.bind_eq_some_iff, Option.map_eq_some_iff, Prod.mk.injEq]
  constructor
  · rintro ⟨dt', h1, out, h2, rfl, rfl⟩
    exact ⟨h1, out, h2, rfl⟩
  · rintro ⟨h1, out, h2, rfl⟩
    exact ⟨dt, h1, out, h2, rfl, rfl⟩

theorem adaptiveRun_succ (n i : ℕ) (s : AState K) :
    adaptiveRun m fixed tp U solve eps gamma u mb o (n + 1) i s
      = (adaptiveStep m fixed tp U solve eps gamma u mb o i s).bind fun p =>
          (adaptiveRun m fixed tp U solve eps gamma u mb o n (i + 1) p.2).map fun q => (p.1 :: q.1, q.2) := by
  rw [adaptiveRun]
  cases adaptiveStep m fixed tp U solve eps gamma u mb o i s with
  | none => rfl
  | some p =>
    simp only [Option.bind_some]
    cases adaptiveRun m fixed tp U solve eps gamma u mb o n (i + 1) p.2 <;> rfl

theorem adaptiveRun_succ_eq_some_iff (n i : ℕ) (s s' : AState K) (dts : List K) :
    adaptiveRun m fixed tp U solve eps gamma u mb o (n + 1) i s = some (dts, s') ↔
      ∃ dt s1 dts0, adaptiveStep m fixed tp U solve eps gamma u mb o i s = some (dt, s1) ∧
        adaptiveRun m fixed tp U solve eps gamma u mb o n (i + 1) s1 = some (dts0, s') ∧ dts = dt :: dts0 := by
  rw [adaptiveRun_succ]
  simp only [Option.bind_eq_some_iff, Option.map_eq_some_iff, Prod.mk.injEq, Prod.exists]
  constructor
  · rintro ⟨dt, s1, h1, dts0, s2, h2, rfl, rfl⟩
    exact ⟨dt, s1, dts0, h1, h2, rfl⟩
  · rintro ⟨dt, s1, dts0, h1, h2, rfl⟩
    exact ⟨dt, s1, h1, dts0, s', h2, rfl, rfl⟩

end adaptive

/-- **Adaptive runs that fail together**: a relation between the states of two adaptive runs that one update
    preserves, with equal time steps, is preserved by the runs, with equal lists of time steps. -/
theorem adaptiveRun_rel [NatCast K] {R : AState K → AState K → Prop} {m : FVMesh K} {fixed : ℕ → Bool}
    {tp : Option (Cx K)} {U U' : ℕ → Cx K} {solve solve' : (ℕ → K) → (ℕ → K)} {eps : ℕ → K} {gamma u : K}
    {mb : ℕ → K} {o : AdaptOpts K}
    (hstep : ∀ i s s', R s s' →
      OptRel (fun p p' => p'.1 = p.1 ∧ R p.2 p'.2) (adaptiveStep m fixed tp U solve eps gamma u mb o i s)
        (adaptiveStep m fixed tp U' solve' eps gamma u mb o i s')) (n : ℕ) :
    ∀ i s s', R s s' →
      OptRel (fun p p' => p'.1 = p.1 ∧ R p.2 p'.2) (adaptiveRun m fixed tp U solve eps gamma u mb o n i s)
        (adaptiveRun m fixed tp U' solve' eps gamma u mb o n i s') := by
  induction n with
  | zero => exact fun i s s' h => .some ⟨rfl, h⟩
  | succ n ih =>
    intro i s s' h
    rw [adaptiveRun_succ, adaptiveRun_succ]
    refine (hstep i s s' h).bind fun p p' hp => (ih (i + 1) p.2 p'.2 hp.2).map fun q q' hq => ?_
    exact ⟨by rw [hp.1, hq.1], hq.2⟩

end Tdgl
