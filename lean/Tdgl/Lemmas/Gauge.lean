/-
  Lattice gauge covariance of the update on the whole mesh (see `Tdgl.Lemmas.Phase` for the notion and for one site):
  covariant gradient, covariant Laplacian, supercurrent, `eulerSite`, `eulerPinnedFn`.
-/
import Mathlib.Tactic.Ring
import Mathlib.Tactic.LinearCombination
import Tdgl.Lemmas.Sums
import Tdgl.Lemmas.RealInst
import Tdgl.Lemmas.Phase
import Tdgl.Lemmas.Update
import Tdgl.Lemmas.Operators
import Tdgl.Update

open Finset

namespace Tdgl

/-! ### the operators -/

/-- `ψ_r ↦ q_r ψ_r` -/
def rot (q : ℕ → Cx ℝ) (psi : ℕ → Cx ℝ) (r : ℕ) : Cx ℝ := Cx.mul (q r) (psi r)

/-- the conjugate form of `hU`: `conj(U'_e) q_{e0} = q_{e1} conj(U_e)` -/
private theorem link_conj {u u' q0 q1 : ℂ} (h : u' * q1 = q0 * u) (h0 : q0 * (starRingEnd ℂ) q0 = 1)
    (h1 : q1 * (starRingEnd ℂ) q1 = 1) : (starRingEnd ℂ) u' * q0 = q1 * (starRingEnd ℂ) u := by
  have hc := congrArg (starRingEnd ℂ) h
  simp only [map_mul] at hc
  linear_combination (q0 * q1) * hc - ((starRingEnd ℂ) u' * q0) * h1 + (q1 * (starRingEnd ℂ) u) * h0

theorem cgradEdge_gauge (m : FVMesh ℝ) {U U' q : ℕ → Cx ℝ}
    (hU : ∀ e, Cx.mul (U' e) (q (m.e1 e)) = Cx.mul (q (m.e0 e)) (U e)) (psi : ℕ → Cx ℝ) (e : ℕ) :
    cgradEdge m U' (rot q psi) e = Cx.mul (q (m.e0 e)) (cgradEdge m U psi e) := by
  have k := congrArg toC (hU e)
  simp only [toC_mul] at k
  apply toC_injective
  simp only [cgradEdge, rot, toC_add, toC_mul, toC_smul]
  linear_combination ((((1 : ℝ) / m.len e : ℝ) : ℂ) * toC (psi (m.e1 e))) * k

/-- The covariant Laplacian transforms covariantly (pinned identity rows included). -/
theorem clapRow_gauge (m : FVMesh ℝ) (fixed : ℕ → Bool) {U U' q : ℕ → Cx ℝ} (hq : ∀ r, Cx.normSq (q r) = 1)
    (hU : ∀ e, Cx.mul (U' e) (q (m.e1 e)) = Cx.mul (q (m.e0 e)) (U e)) (psi : ℕ → Cx ℝ) (r : ℕ) :
    clapRow m fixed U' (rot q psi) r = Cx.mul (q r) (clapRow m fixed U psi r) := by
  by_cases hf : fixed r = true
  · simp only [clapRow, hf, if_true, rot]
  · have hfree : ∀ V phi, clapRow m fixed V phi r = clapRow m (fun _ => false) V phi r := fun V phi => by
      simp only [clapRow, hf, if_false, Bool.false_eq_true]
    apply toC_injective
    rw [hfree, hfree, toC_mul, toC_clapRow_free, toC_clapRow_free, Finset.mul_sum]
    refine Finset.sum_congr rfl fun e _ => ?_
    have k1 := congrArg toC (hU e)
    simp only [toC_mul] at k1
    have k2 := link_conj k1 (toC_mul_conj_of_unit (hq _)) (toC_mul_conj_of_unit (hq _))
    rw [mul_add]
    congr 1 <;> split_ifs with h
    · subst h
      simp only [rot, toC_mul]
      linear_combination (((m.w e / m.area (m.e0 e) : ℝ) : ℂ) * toC (psi (m.e1 e))) * k1
    · rw [mul_zero]
    · subst h
      simp only [rot, toC_mul]
      linear_combination (((m.w e / m.area (m.e1 e) : ℝ) : ℂ) * toC (psi (m.e0 e))) * k2
    · rw [mul_zero]

theorem mul_conj_mul_unit {q : Cx ℝ} (hq : Cx.normSq q = 1) (a g : Cx ℝ) :
    Cx.mul (Cx.conj (Cx.mul q a)) (Cx.mul q g) = Cx.mul (Cx.conj a) g := by
  have h := toC_mul_conj_of_unit hq
  apply toC_injective
  simp only [toC_mul, toC_conj, map_mul]
  linear_combination ((starRingEnd ℂ) (toC a) * toC g) * h

/-- The supercurrent on every edge is gauge invariant. -/
theorem superEdge_gauge (m : FVMesh ℝ) {U U' q : ℕ → Cx ℝ} (hq : ∀ r, Cx.normSq (q r) = 1)
    (hU : ∀ e, Cx.mul (U' e) (q (m.e1 e)) = Cx.mul (q (m.e0 e)) (U e)) (psi : ℕ → Cx ℝ) :
    superEdge m U' (rot q psi) = superEdge m U psi := by
  funext e
  unfold superEdge
  rw [cgradEdge_gauge m hU, rot, mul_conj_mul_unit (hq _)]

/-- **One site of the mesh.** -/
theorem eulerSite_gauge (m : FVMesh ℝ) (fixed : ℕ → Bool) {U U' q q' : ℕ → Cx ℝ} {mu mu' : ℕ → ℝ} {dt : ℝ}
    (hq : ∀ r, Cx.normSq (q r) = 1) (hq' : ∀ r, Cx.normSq (q' r) = 1)
    (hU : ∀ e, Cx.mul (U' e) (q (m.e1 e)) = Cx.mul (q (m.e0 e)) (U e))
    (hT : ∀ r, Cx.mul (linkU (mu' r) dt) (q r) = Cx.mul (q' r) (linkU (mu r) dt))
    (psi : ℕ → Cx ℝ) (a eps : ℕ → ℝ) (gamma u : ℝ) (r : ℕ) :
    eulerSite m fixed U' (rot q psi) a mu' eps gamma u dt r
      = (eulerSite m fixed U psi a mu eps gamma u dt r).map (fun px => (Cx.mul (q' r) px.1, px.2)) := by
  unfold eulerSite
  rw [clapRow_gauge m fixed hq hU, rot, stepSite_gauge (hq' r) (hT r)]

/-- the re-imposed terminal value does not see a rotation if it is unset or zero -/
theorem pinSite_mul {tp : Option (Cx ℝ)} (htp : tp = none ∨ tp = some ⟨0, 0⟩) (fixed : ℕ → Bool) (q : Cx ℝ) (r : ℕ)
    (px : Cx ℝ × ℝ) :
    pinSite fixed tp r (Cx.mul q px.1, px.2) = (Cx.mul q (pinSite fixed tp r px).1, (pinSite fixed tp r px).2) := by
  rcases htp with rfl | rfl
  · rfl
  · unfold pinSite
    split_ifs
    · rw [Cx.mul_zero]
    · rfl

/-- **The whole mesh, terminal value re-imposed.**  `hpad`: beyond the mesh a site keeps its value whatever its
    quadratic says, so there the two rotations have to agree on it (they do if `q' = q`, or if ψ is zero there). -/
theorem eulerPinnedFn_gauge (m : FVMesh ℝ) (fixed : ℕ → Bool) {tp : Option (Cx ℝ)} (htp : tp = none ∨ tp = some ⟨0, 0⟩)
    {U U' q q' : ℕ → Cx ℝ} {mu mu' : ℕ → ℝ} {dt : ℝ}
    (hq : ∀ r, Cx.normSq (q r) = 1) (hq' : ∀ r, Cx.normSq (q' r) = 1)
    (hU : ∀ e, Cx.mul (U' e) (q (m.e1 e)) = Cx.mul (q (m.e0 e)) (U e))
    (hT : ∀ r, Cx.mul (linkU (mu' r) dt) (q r) = Cx.mul (q' r) (linkU (mu r) dt))
    (psi : ℕ → Cx ℝ) (a eps : ℕ → ℝ) (gamma u : ℝ)
    (hpad : ∀ r, m.n ≤ r → Cx.mul (q r) (psi r) = Cx.mul (q' r) (psi r)) :
    eulerPinnedFn m fixed tp U' (rot q psi) a mu' eps gamma u dt
      = (eulerPinnedFn m fixed tp U psi a mu eps gamma u dt).map
          (fun out r => (Cx.mul (q' r) (out r).1, (out r).2)) :=
  eulerPinnedFn_map (fun r px => (Cx.mul (q' r) px.1, px.2))
    (eulerSite_gauge m fixed hq hq' hU hT psi a eps gamma u) (fun r px => pinSite_mul htp fixed _ r px)
    (fun r hr => by rw [rot, hpad r hr])

end Tdgl
