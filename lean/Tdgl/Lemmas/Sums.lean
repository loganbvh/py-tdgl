/- Bridges from the executable sums / pair-complex numbers of the models to Mathlib. -/
import Mathlib.Algebra.BigOperators.Group.Finset.Basic
import Mathlib.Algebra.BigOperators.Ring.Finset
import Mathlib.Algebra.BigOperators.Group.Finset.Sigma
import Mathlib.Algebra.Field.Basic
import Mathlib.Data.Complex.Basic
import Mathlib.Tactic.Ring
import Tdgl.Scalar

open Finset

namespace Tdgl

/-- the executable sum is the `Finset.range` sum -/
theorem sumTo_eq {K : Type} [AddCommMonoid K] (f : ℕ → K) (n : ℕ) :
    sumTo f n = ∑ i ∈ range n, f i := by
  induction n with
  | zero => simp [sumTo]
  | succ n ih => simp [sumTo, ih, Finset.sum_range_succ]

/-- a sum of terms that are linear in `f k` is linear in `f` -/
theorem sumTo_lin {K : Type} [CommSemiring K] (T : ℕ → K → K)
    (hT : ∀ k a b x y, T k (a * x + b * y) = a * T k x + b * T k y) (n : ℕ) (f g : ℕ → K) (a b : K) :
    sumTo (fun k => T k (a * f k + b * g k)) n
      = a * sumTo (fun k => T k (f k)) n + b * sumTo (fun k => T k (g k)) n := by
  simp only [sumTo_eq, hT, sum_add_distrib, mul_sum]

/-- scatter–gather: if every edge `e < E` deposits `A e` on site `i0 e` and `B e` on site `i1 e`, the `c`-weighted
    sum over the sites of what they received is one sum over the edges -/
theorem sum_mul_scatter {R : Type} [CommSemiring R] {n E : ℕ} {i0 i1 : ℕ → ℕ}
    (h0 : ∀ e, e < E → i0 e < n) (h1 : ∀ e, e < E → i1 e < n) (c A B : ℕ → R) :
    ∑ r ∈ range n, c r * ∑ e ∈ range E, ((if i0 e = r then A e else 0) + (if i1 e = r then B e else 0))
      = ∑ e ∈ range E, (c (i0 e) * A e + c (i1 e) * B e) := by
  simp_rw [Finset.mul_sum]
  rw [Finset.sum_comm]
  refine Finset.sum_congr rfl fun e he => ?_
  have he := mem_range.1 he
  simp only [mul_add, mul_ite, mul_zero, Finset.sum_add_distrib, Finset.sum_ite_eq, mem_range, h0 e he, h1 e he,
    if_true]

theorem csumTo_re {K : Type} [AddCommMonoid K] (f : ℕ → Cx K) (n : ℕ) :
    (csumTo f n).re = ∑ i ∈ range n, (f i).re := by
  induction n with
  | zero => simp [csumTo]
  | succ n ih => simp [csumTo, Cx.add, ih, Finset.sum_range_succ]

theorem csumTo_im {K : Type} [AddCommMonoid K] (f : ℕ → Cx K) (n : ℕ) :
    (csumTo f n).im = ∑ i ∈ range n, (f i).im := by
  induction n with
  | zero => simp [csumTo]
  | succ n ih => simp [csumTo, Cx.add, ih, Finset.sum_range_succ]

theorem Cx.ext' {K : Type} {a b : Cx K} (h1 : a.re = b.re) (h2 : a.im = b.im) : a = b := by
  cases a; cases b; simp_all

section csum
variable {K : Type}

theorem Cx.add_zero [AddCommMonoid K] (a : Cx K) : Cx.add a Cx.zero = a :=
  Cx.ext' (_root_.add_zero _) (_root_.add_zero _)

theorem Cx.zero_add [AddCommMonoid K] (a : Cx K) : Cx.add Cx.zero a = a :=
  Cx.ext' (_root_.zero_add _) (_root_.zero_add _)

theorem csumTo_congr [Add K] [OfNat K 0] {f g : ℕ → Cx K} {n : ℕ} (h : ∀ e, e < n → f e = g e) :
    csumTo f n = csumTo g n := by
  induction n with
  | zero => rfl
  | succ n ih => rw [csumTo, csumTo, ih fun e he => h e (Nat.lt_succ_of_lt he), h n (Nat.lt_succ_self n)]

/-- a sum with at most one non-zero term -/
theorem csumTo_single [AddCommMonoid K] {f : ℕ → Cx K} {n e : ℕ} (he : e < n)
    (h : ∀ e', e' < n → e' ≠ e → f e' = Cx.zero) : csumTo f n = f e := by
  have h' : ∀ b ∈ range n, b ≠ e → (f b).re = 0 ∧ (f b).im = 0 := fun b hb hne => by
    rw [h b (mem_range.1 hb) hne]; exact ⟨rfl, rfl⟩
  have hn : e ∉ range n → (f e).re = 0 ∧ (f e).im = 0 := fun hn => absurd (mem_range.2 he) hn
  apply Cx.ext'
  · rw [csumTo_re]
    exact Finset.sum_eq_single e (fun b hb hne => (h' b hb hne).1) fun x => (hn x).1
  · rw [csumTo_im]
    exact Finset.sum_eq_single e (fun b hb hne => (h' b hb hne).2) fun x => (hn x).2

theorem csumTo_eq_zero [AddCommMonoid K] {f : ℕ → Cx K} {n : ℕ} (h : ∀ e, e < n → f e = Cx.zero) :
    csumTo f n = Cx.zero := by
  apply Cx.ext'
  · rw [csumTo_re]
    exact Finset.sum_eq_zero fun e he => by rw [h e (mem_range.1 he)]; rfl
  · rw [csumTo_im]
    exact Finset.sum_eq_zero fun e he => by rw [h e (mem_range.1 he)]; rfl

end csum

/-- the pair-complex numbers over `ℝ` are Mathlib's `ℂ` -/
def toC (a : Cx ℝ) : ℂ := ⟨a.re, a.im⟩

theorem toC_injective : Function.Injective toC := by
  intro a b h
  cases a; cases b
  simp only [toC, Complex.mk.injEq] at h
  simp [h.1, h.2]

@[simp] theorem toC_re (a : Cx ℝ) : (toC a).re = a.re := rfl
@[simp] theorem toC_im (a : Cx ℝ) : (toC a).im = a.im := rfl
@[simp] theorem toC_add (a b : Cx ℝ) : toC (Cx.add a b) = toC a + toC b := by
  apply Complex.ext <;> simp [toC, Cx.add]
@[simp] theorem toC_sub (a b : Cx ℝ) : toC (Cx.sub a b) = toC a - toC b := by
  apply Complex.ext <;> simp [toC, Cx.sub]
@[simp] theorem toC_mul (a b : Cx ℝ) : toC (Cx.mul a b) = toC a * toC b := by
  apply Complex.ext <;> simp [toC, Cx.mul]
@[simp] theorem toC_neg (a : Cx ℝ) : toC (Cx.neg a) = - toC a := by
  apply Complex.ext <;> simp [toC, Cx.neg]
@[simp] theorem toC_conj (a : Cx ℝ) : toC (Cx.conj a) = (starRingEnd ℂ) (toC a) := by
  apply Complex.ext <;> simp [toC, Cx.conj]
@[simp] theorem toC_smul (r : ℝ) (a : Cx ℝ) : toC (Cx.smul r a) = (r : ℂ) * toC a := by
  apply Complex.ext <;> simp [toC, Cx.smul]
@[simp] theorem toC_zero : toC (Cx.zero : Cx ℝ) = 0 := by
  apply Complex.ext <;> simp [toC, Cx.zero]
@[simp] theorem toC_one : toC (Cx.one : Cx ℝ) = 1 := by
  apply Complex.ext <;> simp [toC, Cx.one]
@[simp] theorem toC_ofReal (r : ℝ) : toC (Cx.ofReal r) = (r : ℂ) := by
  apply Complex.ext <;> simp [toC, Cx.ofReal]
theorem toC_normSq (a : Cx ℝ) : Cx.normSq a = Complex.normSq (toC a) := by
  simp [Cx.normSq, Complex.normSq_apply, toC]

theorem toC_csumTo (f : ℕ → Cx ℝ) (n : ℕ) : toC (csumTo f n) = ∑ i ∈ range n, toC (f i) := by
  induction n with
  | zero => apply Complex.ext <;> simp [csumTo, toC]
  | succ n ih => simp [csumTo, ih, Finset.sum_range_succ]

end Tdgl
