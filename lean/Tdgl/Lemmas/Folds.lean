/-
  The executable folds of the models (`pyMax`-folds such as `maxAbs` and `maxChange`, `listSum`, `absK`) in Mathlib's terms:
  a running maximum is bounded below by its start and by every member, above by every common bound, and commutes with a
  positive scaling; `listSum` is linear.
-/
import Mathlib.Algebra.Order.Field.Basic
import Tdgl.Adaptive
import Tdgl.Options

namespace Tdgl
variable {K α : Type}

section order
variable [LinearOrder K] (g : α → K)

theorem pyMax_eq_max (a b : K) : pyMax a b = max a b := by
  unfold pyMax
  split_ifs with h
  · exact (max_eq_right h.le).symm
  · exact (max_eq_left (not_lt.1 h)).symm

theorem le_foldl_pyMax (l : List α) (m0 : K) : m0 ≤ l.foldl (fun m c => pyMax m (g c)) m0 := by
  induction l generalizing m0 with
  | nil => exact le_rfl
  | cons a t ih => exact le_trans (pyMax_eq_max m0 (g a) ▸ le_max_left m0 (g a)) (ih (pyMax m0 (g a)))

theorem le_foldl_pyMax_of_mem {l : List α} {c : α} (hc : c ∈ l) (m0 : K) :
    g c ≤ l.foldl (fun m c => pyMax m (g c)) m0 := by
  induction l generalizing m0 with
  | nil => cases hc
  | cons a t ih =>
    rcases List.mem_cons.1 hc with rfl | hc
    · exact le_trans (pyMax_eq_max m0 (g c) ▸ le_max_right m0 (g c)) (le_foldl_pyMax g t (pyMax m0 (g c)))
    · exact ih hc _

theorem foldl_pyMax_le {l : List α} {m0 b : K} (h0 : m0 ≤ b) (h : ∀ c ∈ l, g c ≤ b) :
    l.foldl (fun m c => pyMax m (g c)) m0 ≤ b := by
  induction l generalizing m0 with
  | nil => exact h0
  | cons a t ih =>
    exact ih (m0 := pyMax m0 (g a)) (pyMax_eq_max m0 (g a) ▸ max_le h0 (h a List.mem_cons_self))
      (fun c hc => h c (List.mem_cons_of_mem _ hc))

end order

section ring
variable [Field K] [LinearOrder K] [IsStrictOrderedRing K]

theorem absK_eq_abs (x : K) : absK x = |x| := by
  unfold absK
  split_ifs with h
  · exact (abs_of_neg h).symm
  · exact (abs_of_nonneg (not_lt.mp h)).symm

omit [IsStrictOrderedRing K] in
theorem maxAbs_eq (l : List K) : maxAbs l = l.foldl (fun m c => pyMax m (absK c)) 0 := rfl

theorem absK_mul_of_pos {c : K} (hc : 0 < c) (x : K) : absK (c * x) = c * absK x := by
  rw [absK_eq_abs, absK_eq_abs, abs_mul, abs_of_pos hc]

/-- a running maximum of `g` commutes with a positive scaling of `g` and of the start -/
theorem foldl_pyMax_scale {c : K} (hc : 0 < c) (g : α → K) (l : List α) (m0 : K) :
    l.foldl (fun m x => pyMax m (c * g x)) (c * m0) = c * l.foldl (fun m x => pyMax m (g x)) m0 :=
  List.foldl_hom (c * ·) (g₁ := fun m x => pyMax m (g x)) (g₂ := fun m x => pyMax m (c * g x)) (fun m x => by
    simp only [pyMax_eq_max]; exact (mul_max_of_nonneg _ _ hc.le).symm)

theorem maxAbs_scale {c : K} (hc : 0 < c) (l : List K) : maxAbs (l.map (c * ·)) = c * maxAbs l := by
  rw [maxAbs_eq, maxAbs_eq, List.foldl_map, ← foldl_pyMax_scale hc, mul_zero]
  simp only [absK_mul_of_pos hc]

omit [LinearOrder K] [IsStrictOrderedRing K] in
theorem listSum_scale (c : K) (l : List K) : listSum (l.map (c * ·)) = c * listSum l := by
  unfold listSum
  rw [List.foldl_map]
  have := List.foldl_hom (c * ·) (g₁ := (· + ·)) (g₂ := fun x y => x + c * y) (l := l) (init := 0)
    (fun x y => (mul_add c x y).symm)
  rwa [mul_zero] at this

end ring

end Tdgl
