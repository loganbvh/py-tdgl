/-
  C04 (time gauge) — the additive constant of the scalar potential and the global phase of ψ are gauge:
      χ(t) = −c t :   μ → μ + c,   ψ → e^{iφ} ψ  (one φ for all sites).
  The singular Neumann Poisson solve leaves that constant arbitrary (`solve'` below differs from `solve` by an
  arbitrary right-hand-side-dependent constant).  Statement: an ADAPTIVE run — retry loop, accepted time steps,
  windowed rule fed with max |Δ|ψ|²| — uses the same time steps and produces the same |ψ|², Js, Jn at every
  step, whatever constants the solver returns; ψ differs by a global phase, μ by a constant.   (K := ℝ)

  In the terms of `Tdgl.Lemmas.Phase`: `q = e^{iφ}` and `q' = e^{i(φ − c dt)}` at every site, the spatial links
  are untouched, the temporal link of every site carries the constant.
-/
import Mathlib.Analysis.SpecialFunctions.Trigonometric.Basic
import Mathlib.Tactic.Ring
import Mathlib.Tactic.Linarith
import Tdgl.Lemmas.Sums
import Tdgl.Lemmas.RealInst
import Tdgl.Lemmas.Phase
import Tdgl.Lemmas.Gauge
import Tdgl.Lemmas.Update
import Tdgl.Lemmas.Site
import Tdgl.Operators
import Tdgl.Update
import Tdgl.Adaptive
import Tdgl.AdaptiveRun
import Tdgl.Props.C04

open Finset Tdgl Tdgl.C04

namespace Tdgl.C04

/-- ψ multiplied by one global phase -/
noncomputable def phasePsi (phi : ℝ) (psi : ℕ → Cx ℝ) (r : ℕ) : Cx ℝ := Cx.mul (expI phi) (psi r)

/-- two solver states related by a time gauge: global phase `phi` on ψ, constant `c` on μ, currents equal -/
def TimeRel (phi c : ℝ) (s s' : MState ℝ) : Prop :=
  s'.psi = phasePsi phi s.psi ∧ s'.mu = (fun r => s.mu r + c) ∧ s'.js = s.js ∧ s'.jn = s.jn

/-- related for some phase and some constant -/
def TimeRelE (s s' : MState ℝ) : Prop := ∃ phi c, TimeRel phi c s s'

/-- the terminal value is compatible with a global phase: unset, or zero (the default normal-metal contact) -/
def PhaseFree (tp : Option (Cx ℝ)) : Prop := tp = none ∨ tp = some ⟨0, 0⟩

/-- `e^{-i(μ+c)dt} e^{iφ} = e^{i(φ − c dt)} e^{-iμ dt}` -/
theorem link_shift (mu c dt phi : ℝ) :
    Cx.mul (linkU (mu + c) dt) (expI phi) = Cx.mul (expI (phi - c * dt)) (linkU mu dt) := by
  rw [linkU, linkU, expNegI_mul_expI, expI_mul_expNegI]
  congr 1
  ring

/-- one site of the update: μ + c and e^{iφ}ψ (with the Laplacian term rotated alike) give e^{i(φ − c dt)}ψ',
    the same |ψ'|², and the same refusal -/
theorem C04_stepSite_time_gauge (psi lap : Cx ℝ) (a mu eps gamma u dt phi c : ℝ) :
    stepSite (Cx.mul (expI phi) psi) a (mu + c) eps gamma u dt (Cx.mul (expI phi) lap)
      = (stepSite psi a mu eps gamma u dt lap).map (fun px => (Cx.mul (expI (phi - c * dt)) px.1, px.2)) :=
  stepSite_gauge (normSq_expI _) (link_shift mu c dt phi) psi lap a eps gamma u

/-- the covariant Laplacian commutes with a global phase (pinned rows included) -/
theorem C04_lap_global_phase (m : FVMesh ℝ) (fixed : ℕ → Bool) (U : ℕ → Cx ℝ) (psi : ℕ → Cx ℝ) (phi : ℝ) (r : ℕ) :
    clapRow m fixed U (phasePsi phi psi) r = Cx.mul (expI phi) (clapRow m fixed U psi r) :=
  clapRow_gauge m fixed (q := fun _ => expI phi) (fun _ => normSq_expI _) (fun _ => Cx.mul_comm _ _) psi r

/-- the supercurrent does not see a global phase -/
theorem C04_supercurrent_global_phase (m : FVMesh ℝ) (U : ℕ → Cx ℝ) (psi : ℕ → Cx ℝ) (phi : ℝ) (e : ℕ) :
    superEdge m U (phasePsi phi psi) e = superEdge m U psi e :=
  congrFun (superEdge_gauge m (q := fun _ => expI phi) (fun _ => normSq_expI _) (fun _ => Cx.mul_comm _ _) psi) e

/-- the normal current does not see the constant of μ -/
theorem C04_normal_current_mu_constant (m : FVMesh ℝ) (mu dAdt : ℕ → ℝ) (c : ℝ) (e : ℕ) :
    normalEdge m (fun r => mu r + c) dAdt e = normalEdge m mu dAdt e := by
  unfold normalEdge gradEdge
  ring

/-- the state after the observables, in the two gauges: a global phase on ψ, the solver's constant on μ -/
private theorem obsState_time (m : FVMesh ℝ) (U : ℕ → Cx ℝ) (solve : (ℕ → ℝ) → (ℕ → ℝ)) (off : (ℕ → ℝ) → ℝ)
    (mb : ℕ → ℝ) (psi : ℕ → Cx ℝ) (x : ℝ) :
    TimeRelE (obsState m U solve mb psi) (obsState m U (fun rhs r => solve rhs r + off rhs) mb (phasePsi x psi)) := by
  have hjs : superEdge m U (phasePsi x psi) = superEdge m U psi :=
    funext (C04_supercurrent_global_phase m U psi x)
  refine ⟨x, off (poissonRhs m (superEdge m U psi) (fun _ => 0) mb), rfl, ?_, ?_, ?_⟩ <;>
    simp only [obsState, observables, hjs]
  exact funext (C04_normal_current_mu_constant m _ _ _)

-- Hypothesis `hpad`: arrays are index functions on ℕ; `hpad` says (ψ is zero at the indices beyond the mesh, r ≥ m.n).
-- Without it the statement is false:  `eulerPinnedFn` only checks the sites r < m.n for refusal and
-- leaves ψ r unchanged at an index r ≥ m.n whose quadratic has a negative discriminant; there the second run keeps
-- e^{iφ}ψ r while every accepted site moves to e^{i(φ − c dt)}ψ' r, so no single global phase relates the outputs.
-- Counterexample: m.n = 0, m.E = 0 (every dt is accepted, all Laplacians 0), γ = u = 1, tentative dt = 1, μ = 0,
-- ψ 0 = ψ 1 = 1, ε 0 = 1 (site 0: w = 3/2, disc = 4, ψ' 0 = 1), ε 1 = −10 (site 1: w = 3/2 − 11√2, disc = 2w + 1 < 0,
-- kept: ψ' 1 = 1); second run φ = 0, c = π: ψ' 0 = −1, ψ' 1 = 1.  With zero padding the kept value is 0 in both runs.
/-- the two adaptive updates, as related partial computations -/
private theorem adaptiveStep_time (m : FVMesh ℝ) (fixed : ℕ → Bool) (tp : Option (Cx ℝ)) (htp : PhaseFree tp)
    (U : ℕ → Cx ℝ) (solve : (ℕ → ℝ) → (ℕ → ℝ)) (off : (ℕ → ℝ) → ℝ) (eps : ℕ → ℝ) (gamma u : ℝ) (mb : ℕ → ℝ)
    (o : AdaptOpts ℝ) (i : ℕ) (s s' : AState ℝ) (h : TimeRelE s.phys s'.phys) (hc : s'.ctl = s.ctl)
    (hpad : ∀ r, m.n ≤ r → s.phys.psi r = ⟨0, 0⟩) :
    OptRel (fun p p' => p'.1 = p.1 ∧ TimeRelE p.2.phys p'.2.phys ∧ p'.2.ctl = p.2.ctl)
      (adaptiveStep m fixed tp U solve eps gamma u mb o i s)
      (adaptiveStep m fixed tp U (fun rhs r => solve rhs r + off rhs) eps gamma u mb o i s') := by
  obtain ⟨phi, c, hpsi, hmu, -, -⟩ := h
  have habs : (fun r => absSq (s'.phys.psi r)) = fun r => absSq (s.phys.psi r) :=
    funext fun r => by rw [hpsi]; exact absSq_mul_unit (normSq_expI _) _
  -- the Euler step at every trial `dt`: the global phase turns by `c dt`
  have hE : ∀ dt, trialStep m fixed tp U eps gamma u s' dt
      = (trialStep m fixed tp U eps gamma u s dt).map
          (fun out r => (Cx.mul (expI (phi - c * dt)) (out r).1, (out r).2)) := by
    intro dt
    rw [trialStep, habs, hpsi, hmu]
    exact eulerPinnedFn_gauge m fixed htp (q := fun _ => expI phi) (q' := fun _ => expI (phi - c * dt))
      (fun _ => normSq_expI _) (fun _ => normSq_expI _) (fun _ => Cx.mul_comm _ _)
      (fun _ => link_shift _ _ _ _) s.phys.psi _ eps gamma u
      (fun r hr => by rw [hpad r hr, Cx.mul_zero, Cx.mul_zero])
  rw [adaptiveStep_eq, adaptiveStep_eq]
  simp only [hE, Option.isSome_map, hc, Option.map_map]
  refine OptRel.bind (R := fun dt dt' => dt = dt') ?_ ?_
  · exact OptRel.same fun _ => rfl
  · rintro dt _ rfl
    refine OptRel.of_maps fun out => ⟨rfl, ?_, ?_⟩
    · exact obsState_time m U solve off mb (fun r => (out r).1) (phi - c * dt)
    · simp only [Function.comp, afterStep, hc, habs]

/-- One adaptive update: same refusal, same time step, same controller state (hence the same next proposal),
    time-gauge-related fields -- whatever constant the Poisson solver adds (`off` may depend on the right-hand side). -/
theorem C04_adaptive_step_time_gauge (m : FVMesh ℝ) (fixed : ℕ → Bool) (tp : Option (Cx ℝ)) (htp : PhaseFree tp)
    (U : ℕ → Cx ℝ) (solve : (ℕ → ℝ) → (ℕ → ℝ)) (off : (ℕ → ℝ) → ℝ) (eps : ℕ → ℝ) (gamma u : ℝ) (mb : ℕ → ℝ)
    (o : AdaptOpts ℝ) (i : ℕ) (s s' : AState ℝ) (h : TimeRelE s.phys s'.phys) (hc : s'.ctl = s.ctl)
    (hpad : ∀ r, m.n ≤ r → s.phys.psi r = ⟨0, 0⟩) :
    match adaptiveStep m fixed tp U solve eps gamma u mb o i s,
          adaptiveStep m fixed tp U (fun rhs r => solve rhs r + off rhs) eps gamma u mb o i s' with
    | some (dt, t), some (dt', t') => dt' = dt ∧ TimeRelE t.phys t'.phys ∧ t'.ctl = t.ctl
    | none, none => True
    | _, _ => False := by
  rcases (adaptiveStep_time m fixed tp htp U solve off eps gamma u mb o i s s' h hc hpad) with
    ⟨hx, hy⟩ | ⟨⟨dt, t⟩, ⟨dt', t'⟩, hx, hy, ht⟩ <;> rw [hx, hy]
  · trivial
  · exact ht

/-- the zero padding beyond the mesh is kept by an adaptive update (well-formed mesh: no edge touches an index ≥ n) -/
theorem C04_adaptive_step_pad (m : FVMesh ℝ) (hwf : m.WF) (fixed : ℕ → Bool) (tp : Option (Cx ℝ))
    (htp : PhaseFree tp) (U : ℕ → Cx ℝ) (solve : (ℕ → ℝ) → (ℕ → ℝ)) (eps : ℕ → ℝ) (gamma u : ℝ) (mb : ℕ → ℝ)
    (o : AdaptOpts ℝ) (i : ℕ) (s : AState ℝ) (hpad : ∀ r, m.n ≤ r → s.phys.psi r = ⟨0, 0⟩)
    (dt : ℝ) (t : AState ℝ) (h : adaptiveStep m fixed tp U solve eps gamma u mb o i s = some (dt, t)) :
    ∀ r, m.n ≤ r → t.phys.psi r = ⟨0, 0⟩ := by
  intro r hr
  obtain ⟨-, out, hout, rfl⟩ := (adaptiveStep_eq_some_iff ..).mp h
  obtain ⟨-, rfl⟩ := (eulerPinnedFn_eq_some_iff ..).mp hout
  -- beyond the mesh no edge contributes: the site sees ψ = 0 and a zero Laplacian, and stays 0
  have hlap : clapRow m fixed U s.phys.psi r = ⟨0, 0⟩ := by
    unfold clapRow
    split_ifs
    · exact hpad r hr
    · refine csumTo_eq_zero fun e he => ?_
      have h1 : m.e1 e ≠ r := by have := hwf.inRange e he; omega
      have h0 : m.e0 e ≠ r := by have := hwf.inRange e he; have := hwf.lt e he; omega
      simp only [h0, h1, if_false, Cx.add, Cx.zero, add_zero]
  have he : eulerSite m fixed U s.phys.psi (fun r => absSq (s.phys.psi r)) s.phys.mu eps gamma u dt r
      = some (⟨0, 0⟩, 0) := by
    rw [eulerSite, hlap, hpad r hr, stepSite_zero]
  show (pinSite fixed tp r _).1 = _
  rw [he, Option.getD_some]
  rcases htp with rfl | rfl
  · rfl
  · unfold pinSite
    split_ifs <;> rfl

-- Hypotheses `hwf : m.WF` and `hpad` (ψ is zero at the indices beyond the mesh).
-- Reason: see `C04_adaptive_step_time_gauge` (the first statement is false because of junk at indices r ≥ m.n);
-- well-formedness of the mesh (no edge touches an index ≥ n) is what keeps the padding zero from one update to the next.
/-- A whole adaptive run: the list of time steps used is the same, the final states are time-gauge related
    (equal |ψ|², Js, Jn), and the runs raise together. -/
theorem C04_adaptive_run_time_gauge (m : FVMesh ℝ) (hwf : m.WF) (fixed : ℕ → Bool) (tp : Option (Cx ℝ))
    (htp : PhaseFree tp)
    (U : ℕ → Cx ℝ) (solve : (ℕ → ℝ) → (ℕ → ℝ)) (off : (ℕ → ℝ) → ℝ) (eps : ℕ → ℝ) (gamma u : ℝ) (mb : ℕ → ℝ)
    (o : AdaptOpts ℝ) (n i : ℕ) (s s' : AState ℝ) (h : TimeRelE s.phys s'.phys) (hc : s'.ctl = s.ctl)
    (hpad : ∀ r, m.n ≤ r → s.phys.psi r = ⟨0, 0⟩) :
    match adaptiveRun m fixed tp U solve eps gamma u mb o n i s,
          adaptiveRun m fixed tp U (fun rhs r => solve rhs r + off rhs) eps gamma u mb o n i s' with
    | some (dts, t), some (dts', t') => dts' = dts ∧ TimeRelE t.phys t'.phys ∧ t'.ctl = t.ctl
    | none, none => True
    | _, _ => False := by
  -- the invariant of the pair of runs: related, and the first one zero-padded
  have hrun := adaptiveRun_rel
    (R := fun s s' => (TimeRelE s.phys s'.phys ∧ s'.ctl = s.ctl) ∧ ∀ r, m.n ≤ r → s.phys.psi r = ⟨0, 0⟩)
    (fun i s s' hR =>
      (adaptiveStep_time m fixed tp htp U solve off eps gamma u mb o i s s' hR.1.1 hR.1.2 hR.2).imp
        fun p p' hp _ hpp' => ⟨hpp'.1, hpp'.2,
          C04_adaptive_step_pad m hwf fixed tp htp U solve eps gamma u mb o i s hR.2 p.1 p.2 hp⟩)
    n i s s' ⟨⟨h, hc⟩, hpad⟩
  rcases hrun with ⟨hx, hy⟩ | ⟨⟨dts, t⟩, ⟨dts', t'⟩, hx, hy, ht⟩ <;> rw [hx, hy]
  · trivial
  · exact ⟨ht.1, ht.2.1.1, ht.2.1.2⟩

/-- what `TimeRelE` means for the observables: |ψ|² at every site and both currents are equal -/
theorem C04_time_rel_observables (s s' : MState ℝ) (h : TimeRelE s s') :
    (∀ r, absSq (s'.psi r) = absSq (s.psi r)) ∧ s'.js = s.js ∧ s'.jn = s.jn ∧ ∃ c, ∀ r, s'.mu r = s.mu r + c := by
  obtain ⟨phi, c, hpsi, hmu, hjs, hjn⟩ := h
  refine ⟨fun r => ?_, hjs, hjn, c, fun r => ?_⟩
  · rw [hpsi]
    exact absSq_mul_unit (normSq_expI _) _
  · rw [hmu]

/-- Why the controller must be fed with the change of |ψ|² and not with the change of the complex ψ: the latter is
    not invariant.  ψ = ψ' = 1 (nothing changes physically), μ-constant c with c·dt = π: the complex change is 2. -/
theorem C04_complex_change_not_gauge_invariant :
    ∃ (psi psi' : Cx ℝ) (x : ℝ),
      Cx.normSq (Cx.sub psi' psi) = 0 ∧ Cx.normSq (Cx.sub (Cx.mul (expI x) psi') psi) = 4 := by
  refine ⟨⟨1, 0⟩, ⟨1, 0⟩, Real.pi, ?_, ?_⟩
  · simp [Cx.normSq, Cx.sub]
  · simp only [Cx.normSq, Cx.sub, Cx.mul, expI, Real.cos_pi, Real.sin_pi]
    norm_num

/-- non-vacuity: a concrete pair of related states, and both admissible terminal values -/
example : TimeRelE ⟨fun _ => ⟨1, 0⟩, fun _ => 0, fun _ => 0, fun _ => 0⟩
    ⟨fun _ => ⟨Real.cos 1, Real.sin 1⟩, fun _ => 0 + 2, fun _ => 0, fun _ => 0⟩ := by
  refine ⟨1, 2, ?_, rfl, rfl, rfl⟩
  funext r
  apply Cx.ext' <;> simp [phasePsi, expI, Cx.mul]

/-- non-vacuity of the padding hypothesis: related states on a 2-site mesh, zero beyond it, non-zero inside -/
example : ∃ s s' : MState ℝ, TimeRelE s s' ∧ (∀ r, 2 ≤ r → s.psi r = ⟨0, 0⟩) ∧ s.psi 0 ≠ ⟨0, 0⟩ := by
  refine ⟨⟨fun r => if r < 2 then ⟨1, 0⟩ else ⟨0, 0⟩, fun _ => 0, fun _ => 0, fun _ => 0⟩,
    ⟨phasePsi 1 (fun r => if r < 2 then ⟨1, 0⟩ else ⟨0, 0⟩), fun _ => 0 + 2, fun _ => 0, fun _ => 0⟩,
    ⟨1, 2, rfl, rfl, rfl, rfl⟩, ?_, ?_⟩
  · intro r hr
    simp [Nat.not_lt.mpr hr]
  · simp

example : PhaseFree none ∧ PhaseFree (some ⟨0, 0⟩) := ⟨Or.inl rfl, Or.inr rfl⟩

end Tdgl.C04
