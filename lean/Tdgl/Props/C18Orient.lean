/-
  C18 — "polygon vertices are always stored closed and counter-clockwise": orientation is decided by the SIGN OF THE SIGNED AREA
  (shoelace; `orientCCW` in Tdgl/Geometry.lean, shapely's `orient` in the code).  A seeded change of round 12 decided it by the
  sum of the turns at the vertices (Σ cross(eᵢ, eᵢ₊₁)) instead, which agrees on convex outlines only.  The witness below — a plus
  sign with arms five times longer than their half-width, listed counter-clockwise — has positive area and a NEGATIVE sum of
  turns: 8 convex corners contribute 2·5 each, 4 reflex corners −5·5 each.
-/
import Mathlib.Algebra.Order.Field.Basic
import Mathlib.Algebra.Order.Field.Rat
import Mathlib.Tactic.NormNum
import Mathlib.Tactic.Common
import Tdgl.Geometry
import Tdgl.Props.C18

open Tdgl

namespace Tdgl.C18

/-- `Σᵢ cross(pᵢ₊₁ − pᵢ, pᵢ₊₂ − pᵢ₊₁)` around the closed outline -/
def sumTurns (l : List (Pt ℚ)) : ℚ :=
  let n := l.length
  (List.range n).foldl (fun acc i =>
    let p := l.getD i (0, 0)
    let q := l.getD ((i + 1) % n) (0, 0)
    let r := l.getD ((i + 2) % n) (0, 0)
    acc + ((q.1 - p.1) * (r.2 - q.2) - (r.1 - q.1) * (q.2 - p.2))) 0

/-- a plus sign listed counter-clockwise -/
def plusSign : List (Pt ℚ) :=
  [(1, -1), (6, -1), (6, 1), (1, 1), (1, 6), (-1, 6), (-1, 1), (-6, 1), (-6, -1), (-1, -1), (-1, -6), (1, -6)]

/-- The plus sign is counter-clockwise (doubled signed area 88 > 0), the model's `orientCCW` leaves it alone — and the sum of its
    turns is −20: a rule that reverses an outline when the sum of turns is negative stores it CLOCKWISE. -/
theorem C18_sum_of_turns_counterexample :
    signedArea2 plusSign = 88 ∧ orientCCW plusSign = plusSign ∧ sumTurns plusSign = -20 ∧
    signedArea2 plusSign.reverse = -88 := by
  have h : signedArea2 plusSign = 88 := by decide +kernel
  refine ⟨h, ?_, by decide +kernel, ?_⟩
  · rw [orientCCW, h, if_neg (by norm_num)]
  · rw [C18_reverse_area, h]

end Tdgl.C18
