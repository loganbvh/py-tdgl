/-
  C20 — fields and potentials computed from currents are linear and correct.   Model: Tdgl/Fields.lean.
-/
import Mathlib.Algebra.BigOperators.Group.Finset.Basic
import Mathlib.Algebra.BigOperators.Ring.Finset
import Mathlib.Algebra.Field.Basic
import Mathlib.Tactic.Ring
import Tdgl.Lemmas.Sums
import Tdgl.Lemmas.RealInst
import Tdgl.Fields

open Finset Tdgl

namespace Tdgl.C20

variable {K : Type} [Field K]

/-- The z-field is linear in the sheet current, for any geometry (any weights, any offsets). -/
theorem C20_bz_linear (n : ℕ) (pref dx dy Jx Jy Jx' Jy' : ℕ → K) (a b : K) :
    bsZ n pref dx dy (fun k => a * Jx k + b * Jx' k) (fun k => a * Jy k + b * Jy' k)
      = a * bsZ n pref dx dy Jx Jy + b * bsZ n pref dx dy Jx' Jy' := by
  simp only [bsZ]
  rw [sumTo_lin (fun k x => pref k * x * dy k) (by intros; ring),
    sumTo_lin (fun k x => pref k * x * dx k) (by intros; ring)]
  ring

/-- The vector field is linear in the sheet current. -/
theorem C20_bvec_linear (n : ℕ) (pref dx dy dz Jx Jy Jx' Jy' : ℕ → K) (a b : K) :
    bsVec n pref dx dy dz (fun k => a * Jx k + b * Jx' k) (fun k => a * Jy k + b * Jy' k)
      = (a * (bsVec n pref dx dy dz Jx Jy).1 + b * (bsVec n pref dx dy dz Jx' Jy').1,
         a * (bsVec n pref dx dy dz Jx Jy).2.1 + b * (bsVec n pref dx dy dz Jx' Jy').2.1,
         a * (bsVec n pref dx dy dz Jx Jy).2.2 + b * (bsVec n pref dx dy dz Jx' Jy').2.2) := by
  refine Prod.ext ?_ (Prod.ext ?_ (C20_bz_linear n pref dx dy Jx Jy Jx' Jy' a b))
  · exact sumTo_lin (fun k x => pref k * x * dz k) (by intros; ring) ..
  · simp only [bsVec]
    rw [sumTo_lin (fun k x => pref k * x * dz k) (by intros; ring)]
    ring

/-- Scalar and vector forms agree: the z-component of the vector field is the scalar kernel. -/
theorem C20_z_of_vector (n : ℕ) (pref dx dy dz Jx Jy : ℕ → K) :
    (bsVec n pref dx dy dz Jx Jy).2.2 = bsZ n pref dx dy Jx Jy := by
  rfl

/-- The total field is the sum of the supercurrent and normal-current parts. -/
theorem C20_sum_parts (n : ℕ) (pref dx dy Jsx Jsy Jnx Jny : ℕ → K) :
    bsZ n pref dx dy (fun k => Jsx k + Jnx k) (fun k => Jsy k + Jny k)
      = bsZ n pref dx dy Jsx Jsy + bsZ n pref dx dy Jnx Jny := by
  simpa only [one_mul] using C20_bz_linear n pref dx dy Jsx Jsy Jnx Jny 1 1

/-- The Coulomb-kernel vector potential is linear in the current and additive over its parts. -/
theorem C20_vecpot_linear (n : ℕ) (c : K) (area rho J J' : ℕ → K) (a b : K) :
    vecPot n c area rho (fun k => a * J k + b * J' k)
      = a * vecPot n c area rho J + b * vecPot n c area rho J' := by
  simp only [vecPot]
  rw [sumTo_lin (fun k x => x / rho k * area k) (by intros; ring)]
  ring

/-- Field-unit conversions between H and B round-trip. -/
theorem C20_convert_roundtrip (mu0 x : K) (h : mu0 ≠ 0) :
    bToH mu0 (hToB mu0 x) = x ∧ hToB mu0 (bToH mu0 x) = x :=
  ⟨mul_div_cancel_right₀ x h, div_mul_cancel₀ x h⟩

/-- The squared-distance kernel is the square of the distance kernel. -/
theorem C20_distance_kernels (ax ay bx b_y : ℝ) :
    euclid ax ay bx b_y * euclid ax ay bx b_y = sqeuclid ax ay bx b_y := by
  simp only [euclid, sqeuclid, hasSqrt_real]
  exact Real.mul_self_sqrt (add_nonneg (mul_self_nonneg _) (mul_self_nonneg _))

end Tdgl.C20
