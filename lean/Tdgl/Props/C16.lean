/-
  C16 — parameter arithmetic means pointwise arithmetic of its operands.
  Model: Tdgl/Param.lean.  Structural induction: every statement holds for trees of ANY depth.
-/
import Mathlib.Data.List.Basic
import Mathlib.Tactic.Common
import Tdgl.Param

open Tdgl Tdgl.PExpr

namespace Tdgl.C16

variable {K : Type} [OfNat K 0]

-- `[OfNat K 0]` is part of every statement's signature (kept as given) even where the proof does not use it
set_option linter.unusedSectionVars false

/-- the operand rule written inside `eval` is `operandValue` -/
theorem C16_eval_comp (env : ℕ → K → K → K → K → K) (ap : BinOp → K → K → K)
    (l r : PExpr K) (op : BinOp) (a : Args K) :
    eval env ap (comp l op r) a =
      match operandValue env ap l a with
      | .error e => .error e
      | .ok vl =>
        match operandValue env ap r a with
        | .error e => .error e
        | .ok vr => .ok (ap op vl vr) := by
  cases l <;> cases r <;> rfl

/-- Evaluating a composite is: evaluate the operands (each receives `t` only if it is time dependent,
    numbers are themselves), left first, and combine the two values with the operator. -/
theorem C16_pointwise (env : ℕ → K → K → K → K → K) (ap : BinOp → K → K → K)
    (l r : PExpr K) (op : BinOp) (a : Args K) :
    eval env ap (comp l op r) a =
      (operandValue env ap l a).bind (fun vl => (operandValue env ap r a).map (fun vr => ap op vl vr)) := by
  rw [C16_eval_comp]
  cases operandValue env ap l a <;> cases operandValue env ap r a <;> rfl

/-- an operand that is not time dependent is evaluated without the time argument -/
private theorem operandValue_static (env : ℕ → K → K → K → K → K) (ap : BinOp → K → K → K) (e : PExpr K)
    (a : Args K) (h : e.td = false) : operandValue env ap e a = operandValue env ap e { a with t := none } := by
  cases e <;> simp only [operandValue, h, Bool.false_eq_true, if_false]

/-- A composite that is not time dependent ignores the time argument altogether. -/
theorem C16_time_ignored_unless_td (env : ℕ → K → K → K → K → K) (ap : BinOp → K → K → K)
    (l r : PExpr K) (op : BinOp) (a : Args K) (h : (comp l op r).td = false) :
    eval env ap (comp l op r) a = eval env ap (comp l op r) { a with t := none } := by
  obtain ⟨hl, hr⟩ := Bool.or_eq_false_iff.1 h
  rw [C16_eval_comp, C16_eval_comp, operandValue_static env ap l a hl, operandValue_static env ap r a hr]

/-- The composite is time dependent exactly when some leaf is. -/
theorem C16_td_iff (e : PExpr K) : e.td = true ↔ ∃ l ∈ e.leaves, l.td = true := by
  induction e with
  | leaf l => simp [PExpr.td, PExpr.leaves]
  | num v => simp [PExpr.td, PExpr.leaves]
  | comp l op r ihl ihr =>
    simp only [PExpr.td, PExpr.leaves, Bool.or_eq_true, List.mem_append, ihl, ihr]
    constructor
    · rintro (⟨x, hx, h⟩ | ⟨x, hx, h⟩)
      · exact ⟨x, Or.inl hx, h⟩
      · exact ⟨x, Or.inr hx, h⟩
    · rintro ⟨x, hx | hx, h⟩
      · exact Or.inl ⟨x, hx, h⟩
      · exact Or.inr ⟨x, hx, h⟩

/-- Equality is structural. -/
theorem C16_eq_structural [DecidableEq K] (e₁ e₂ : PExpr K) : PExpr.beq e₁ e₂ = true ↔ e₁ = e₂ := by
  induction e₁ generalizing e₂ with
  | leaf l => cases e₂ <;> simp [PExpr.beq]
  | num v => cases e₂ <;> simp [PExpr.beq]
  | comp l op r ihl ihr =>
    cases e₂ with
    | leaf _ => simp [PExpr.beq]
    | num _ => simp [PExpr.beq]
    | comp l' op' r' =>
      simp only [PExpr.beq, Bool.and_eq_true, decide_eq_true_eq, ihl, ihr, PExpr.comp.injEq]
      tauto

/-- Operand order is part of the structure: a composite equals the composite with its operands exchanged only when the
    two operands are equal — for every operator, the commutative ones included (`p + q` and `q + p` are different trees,
    and `p ** q`, `q ** p` do not even evaluate alike). -/
theorem C16_eq_swapped_operands [DecidableEq K] (l r : PExpr K) (op : BinOp) :
    PExpr.beq (.comp l op r) (.comp r op l) = true ↔ l = r := by
  rw [C16_eq_structural]
  constructor
  · intro h
    injection h
  · intro h
    subst h
    rfl

/-- Construction is total except for number (op) number, which is a `TypeError`. -/
theorem C16_mk_total (l r : PExpr K) (op : BinOp) :
    (l.isNum = true ∧ r.isNum = true → mk l op r = .error .typeError) ∧
    (¬ (l.isNum = true ∧ r.isNum = true) → mk l op r = .ok (comp l op r)) := by
  unfold mk
  constructor
  · rintro ⟨hl, hr⟩
    simp [hl, hr]
  · intro h
    have : (l.isNum && r.isNum) = false := by
      cases hl : l.isNum <;> cases hr : r.isNum <;> simp_all
    simp [this]

omit [OfNat K 0] in
private theorem readForInit_wf (o : PObj K) (h : o.WellFormed) : o.readForInit = .ok () := by
  cases o with
  | leaf l a => simp only [PObj.WellFormed] at h; subst h; simp [PObj.readForInit, PObj.attrs, Attrs.all]
  | num v => rfl
  | comp l op r a =>
    obtain ⟨ha, -, -⟩ := h
    subst ha; simp [PObj.readForInit, PObj.attrs, Attrs.all]

/-- Nesting is total at any depth and never raises `AttributeError`: from well-formed operands (all slot
    attributes present) the repaired constructor builds a well-formed composite. -/
theorem C16_construct_total (l r : PObj K) (op : BinOp) (hl : l.WellFormed) (hr : r.WellFormed)
    (hn : ¬ (l.isNum = true ∧ r.isNum = true)) :
    ∃ o, PObj.construct Attrs.all l op r = .ok o ∧ o.WellFormed ∧ o.erase = comp l.erase op r.erase := by
  have hn' : (l.isNum && r.isNum) = false := by
    cases h1 : l.isNum <;> cases h2 : r.isNum <;> simp_all
  refine ⟨PObj.comp l op r Attrs.all, ?_, ⟨rfl, hl, hr⟩, rfl⟩
  unfold PObj.construct
  rw [hn', readForInit_wf l hl, readForInit_wf r hr]
  rfl

/- `PObj.clearCache` has no auto-generated equation lemmas (the nested `match` defeats the generator),
   so the unfolding equation is proved by `rfl`; smart unfolding gets stuck on the inner matches. -/
omit [OfNat K 0] in
set_option smartUnfolding false in
private theorem clearCache_comp (l r : PObj K) (op : BinOp) (a : Attrs) :
    (PObj.comp l op r a).clearCache =
      if !a.cache then .error .attributeError else
      match (match r with | .num _ => Except.ok () | r => PObj.clearCache r) with
      | .error e => .error e
      | .ok _ => (match l with | .num _ => .ok () | l => PObj.clearCache l) := by
  cases l <;> cases r <;> rfl

/-- Clearing the caches of a well-formed tree never raises. -/
theorem C16_clear_total (o : PObj K) (h : o.WellFormed) : o.clearCache = .ok () := by
  induction o with
  | leaf l a => simp only [PObj.WellFormed] at h; subst h; rfl
  | num v => rfl
  | comp l op r a ihl ihr =>
    obtain ⟨ha, hl, hr⟩ := h
    subst ha
    have h1 := ihl hl
    have h2 := ihr hr
    rw [clearCache_comp]
    cases l <;> cases r <;> simp_all [Attrs.all]

/-- Pickling and unpickling (repaired `__setstate__`) returns a well-formed object with the same
    expression — hence the same flag, the same values, and it can be cleared and nested again. -/
theorem C16_pickle_roundtrip (o : PObj K) (h : o.WellFormed) :
    (PObj.roundtrip Attrs.all o).WellFormed ∧ (PObj.roundtrip Attrs.all o).erase = o.erase := by
  induction o with
  | leaf l a => exact ⟨h, rfl⟩
  | num v => exact ⟨trivial, rfl⟩
  | comp l op r a ihl ihr =>
    obtain ⟨ha, hl, hr⟩ := h
    obtain ⟨h1, h2⟩ := ihl hl
    obtain ⟨h3, h4⟩ := ihr hr
    exact ⟨⟨rfl, h1, h3⟩, by simp only [PObj.roundtrip, PObj.erase, h2, h4]⟩

/-- objects obtainable from the public operations -/
inductive Reachable : PObj K → Prop where
  | leaf (l : Leaf) : Reachable (PObj.newLeaf l)
  | num (v : K) : Reachable (PObj.num v)
  | construct (l r : PObj K) (op : BinOp) (o : PObj K) :
      Reachable l → Reachable r → PObj.construct Attrs.all l op r = .ok o → Reachable o
  | unpickle (o : PObj K) : Reachable o → Reachable (PObj.roundtrip Attrs.all o)

/-- Every object obtainable by building leaves, nesting with the operators and pickling has all its
    attributes: none of the solver's three calls (`__call__`, `_clear_cache`, use as an operand) can raise
    `AttributeError` on it. -/
theorem C16_reachable_wellformed (o : PObj K) (h : Reachable o) : o.WellFormed := by
  induction h with
  | leaf l => exact rfl
  | num v => exact trivial
  | construct l r op o _ _ hc ihl ihr =>
    unfold PObj.construct at hc
    split at hc
    · cases hc
    · split at hc
      · cases hc
      · split at hc
        · cases hc
        · cases hc
          exact ⟨rfl, ihl, ihr⟩
  | unpickle o _ ih => exact (C16_pickle_roundtrip o ih).1

/-- The pinned upstream tree (`__init__` did not set `_use_cache`) could not nest a time-dependent
    composite: `(P_t * 2) * 3` raised `AttributeError`. -/
theorem C16_old_nesting_counterexample (v w : K) :
    let pt : PObj K := PObj.newLeaf ⟨0, true, true⟩
    ∃ c, PObj.construct ⟨true, false, true⟩ pt .mul (PObj.num v) = .ok c ∧
      PObj.construct ⟨true, false, true⟩ c .mul (PObj.num w) = .error .attributeError := by
  intro pt
  refine ⟨PObj.comp pt .mul (PObj.num v) ⟨true, false, true⟩, ?_, ?_⟩ <;>
    simp [pt, PObj.construct, PObj.readForInit, PObj.attrs, PObj.isNum, PObj.newLeaf, PObj.erase,
      PExpr.td, Attrs.all]

/-- The pinned upstream tree lost the slots on unpickling: a reloaded composite could not even be cleared. -/
theorem C16_old_pickle_counterexample (v : K) :
    let p : PObj K := PObj.comp (PObj.newLeaf ⟨0, false, false⟩) .mul (PObj.num v) Attrs.all
    (PObj.roundtrip ⟨false, false, false⟩ p).clearCache = .error .attributeError := by
  intro p
  simp [p, PObj.roundtrip, clearCache_comp]

end Tdgl.C16
