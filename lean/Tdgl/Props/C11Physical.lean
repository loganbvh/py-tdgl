/-
  C11 — "continuing from a saved final state with the same drive and a fixed time step reproduces, bit for bit, the frames of
  the uninterrupted run", for the PHYSICAL update (models: Tdgl/AdaptiveRun.lean, Tdgl/Runner.lean via `C05.physUpd`).

  `C11_resume` (C11.lean) is stated for an abstract update that may depend on nothing but the state it is given.  The physical
  update also sees the loop index (the warm-up test of the controller) and carries the controller (`tentative_dt`, the history of
  the windowed mean) — which a saved solution does NOT contain.  With a fixed time step (`adaptive = False`) neither matters:

    * `C11_fixed_step_index_free` — the whole update does not depend on the step index;
    * `C11_fixed_step_controller_constant` — it leaves the controller alone and uses the tentative step itself;
    * `C11_physical_resume` — the states of the run continued at index 0 from the state after `n` updates are the states
      `n, n+1, …` of the uninterrupted run (`physUpd` ignores the clock, so only the labels restart).
  With adaptivity on the statement is false in general (the history is not saved) — which is why the property says "fixed".
-/
import Mathlib.Algebra.Order.Field.Basic
import Mathlib.Analysis.SpecialFunctions.Trigonometric.Basic
import Mathlib.Tactic.Common
import Tdgl.Lemmas.RealInst
import Tdgl.Lemmas.Update
import Tdgl.Props.C05Physical
import Tdgl.Props.C11

open Tdgl

namespace Tdgl.C11

private theorem adaptAfter_off (o : AdaptOpts ℝ) (ha : o.adaptive = false) (st : AdaptState ℝ) (i : ℕ) (dt d : ℝ) :
    adaptAfter o st i dt d = st := by
  unfold adaptAfter
  simp [ha]

/-- With a fixed time step the whole update does not depend on the step index. -/
theorem C11_fixed_step_index_free (m : FVMesh ℝ) (fixed : ℕ → Bool) (tp : Option (Cx ℝ)) (U : ℕ → Cx ℝ)
    (solve : (ℕ → ℝ) → (ℕ → ℝ)) (eps : ℕ → ℝ) (gamma u : ℝ) (mb : ℕ → ℝ) (o : AdaptOpts ℝ)
    (ha : o.adaptive = false) (i j : ℕ) (s : AState ℝ) :
    adaptiveStep m fixed tp U solve eps gamma u mb o i s = adaptiveStep m fixed tp U solve eps gamma u mb o j s := by
  unfold adaptiveStep
  simp only [adaptAfter_off o ha]

/-- With a fixed time step the update leaves the controller alone and uses the tentative step itself. -/
theorem C11_fixed_step_controller_constant (m : FVMesh ℝ) (fixed : ℕ → Bool) (tp : Option (Cx ℝ)) (U : ℕ → Cx ℝ)
    (solve : (ℕ → ℝ) → (ℕ → ℝ)) (eps : ℕ → ℝ) (gamma u : ℝ) (mb : ℕ → ℝ) (o : AdaptOpts ℝ)
    (ha : o.adaptive = false) (i : ℕ) (s s' : AState ℝ) (dt : ℝ)
    (h : adaptiveStep m fixed tp U solve eps gamma u mb o i s = some (dt, s')) :
    s'.ctl = s.ctl ∧ dt = s.ctl.tentative := by
  obtain ⟨hu, out, -, rfl⟩ := (adaptiveStep_eq_some_iff ..).mp h
  exact ⟨adaptAfter_off o ha _ _ _ _, dtUsed_fixed ha hu⟩

/-- the runner's view of the update does not depend on the index or the clock either -/
private theorem physUpd_index_free (m : FVMesh ℝ) (fixed : ℕ → Bool) (tp : Option (Cx ℝ)) (U : ℕ → Cx ℝ)
    (solve : (ℕ → ℝ) → (ℕ → ℝ)) (eps : ℕ → ℝ) (gamma u : ℝ) (mb : ℕ → ℝ) (o : AdaptOpts ℝ)
    (ha : o.adaptive = false) (i j : ℕ) (t t' : ℝ) (s : AState ℝ) :
    C05.physUpd m fixed tp U solve eps gamma u mb o s i t = C05.physUpd m fixed tp U solve eps gamma u mb o s j t' := by
  unfold C05.physUpd
  simp only [C11_fixed_step_index_free m fixed tp U solve eps gamma u mb o ha i j s]

/-- **Resumption.**  With a fixed time step, the run continued (labels restarting at 0) from the state after `n` updates
    visits the states `n, n+1, …` of the uninterrupted run: state `k` of the continuation is state `n + k` of the original.
    The state includes ψ, μ, the currents and the (constant) controller. -/
theorem C11_physical_resume (m : FVMesh ℝ) (fixed : ℕ → Bool) (tp : Option (Cx ℝ)) (U : ℕ → Cx ℝ)
    (solve : (ℕ → ℝ) → (ℕ → ℝ)) (eps : ℕ → ℝ) (gamma u : ℝ) (mb : ℕ → ℝ) (o : AdaptOpts ℝ)
    (ha : o.adaptive = false) (s0 : AState ℝ) (n k : ℕ) :
    (traj (C05.physUpd m fixed tp U solve eps gamma u mb o)
        (traj (C05.physUpd m fixed tp U solve eps gamma u mb o) s0 n).2 k).2
      = (traj (C05.physUpd m fixed tp U solve eps gamma u mb o) s0 (n + k)).2 :=
  (C11_resume _ s0
    (fun s i t i' t' => congrArg (fun r => r.2.1) (physUpd_index_free m fixed tp U solve eps gamma u mb o ha i i' t t' s))
    n k).symm

end Tdgl.C11
