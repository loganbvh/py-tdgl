/-
  C13 — "with screening disabled the induced potential is identically zero", for runs CONTINUED from a seed solution.
  Model: Tdgl/Screening.lean (`initialInduced`, `noScreenStep`); source pin `pin_seed_induced` (every value `solve` gives to
  "induced_vector_potential" before the stages run, with its condition), regenerated from /repo on every run.

  `C13_disabled_zero` (C13.lean) carries the hypothesis "from a fresh start" — the hole through which the genuine defect F25
  went: a screening-off run continued from a screened seed recorded the seed's induced potential in every frame.  With the
  repaired start (`initialInduced`) the statement holds for EVERY seed; the old start is kept as a counterexample theorem.
-/
import Mathlib.Algebra.Order.Field.Basic
import Mathlib.Tactic.Common
import Mathlib.Tactic.NormNum
import Mathlib.Algebra.Order.Field.Rat
import Tdgl.Screening
import Tdgl.Generated.SourcePins
import Tdgl.Props.C13

open Tdgl Tdgl.Gen

namespace Tdgl.C13

variable {K : Type} [Field K]

/-- **Screening disabled ⇒ induced potential identically zero, whatever the run is continued from.**  After any number of
    steps of a screening-off run started as `solve` starts it — fresh, or from ANY seed (screened or not) — the induced
    vector potential is zero on every edge. -/
theorem C13_disabled_zero_any_seed {S : Type} (phys : S → (ℕ → K) → S) (n : ℕ) (s : S) (seed : Option (ℕ → K)) :
    ((fun p : S × (ℕ → K) => noScreenStep phys p.1 p.2)^[n] (s, initialInduced false seed)).2 = fun _ => 0 := by
  rw [noScreen_iterate_snd]
  cases seed <;> rfl

/-- With screening on, a continued run starts from the seed's induced potential (nothing is thrown away). -/
theorem C13_seed_kept_with_screening (a : ℕ → K) : initialInduced true (some a) = a := rfl

/-- A fresh run starts from zero with or without screening. -/
theorem C13_fresh_start_zero (screening : Bool) : initialInduced screening (none : Option (ℕ → K)) = fun _ => 0 := rfl

/-- The old start (before afab2ac) violates the property: a screening-off run continued from a seed whose induced
    potential is 1 on edge 0 still shows 1 there after any number of steps. -/
theorem C13_old_seed_counterexample (n : ℕ) :
    ((fun p : Unit × (ℕ → ℚ) => noScreenStep (fun s _ => s) p.1 p.2)^[n]
      ((), initialInducedOld (some (fun e => if e = 0 then 1 else 0)))).2 0 = 1 := by
  rw [noScreen_iterate_snd]
  simp [initialInducedOld]

/-- Tie B: the values `TDGLSolver.solve` gives to "induced_vector_potential" before the stages run, with their conditions,
    are exactly the three branches of `initialInduced`. -/
theorem C13_bridge_seed_start :
    pin_seed_induced = "seed_solution is None: np.zeros((num_edges, 2)) ; not (seed_solution is None) and not (seed_solution.device != device): seed_data.induced_vector_potential ; not (seed_solution is None) and not (seed_solution.device != device) and not options.include_screening: np.zeros((num_edges, 2))" := by
  rfl

end Tdgl.C13
