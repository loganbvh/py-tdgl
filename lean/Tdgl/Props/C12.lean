/-
  C12 — time steps follow the documented adaptive rule and its bounds.
  Model: Tdgl/Adaptive.lean.  Ordered field; for every refusal oracle, every history.
-/
import Mathlib.Algebra.Order.Field.Basic
import Mathlib.Tactic.Ring
import Mathlib.Tactic.Linarith
import Mathlib.Tactic.Positivity
import Tdgl.Adaptive
import Tdgl.Lemmas.Retry

open Tdgl

namespace Tdgl.C12

variable {K : Type} [Field K] [LinearOrder K] [IsStrictOrderedRing K]

/-- the options are sane (what `SolverOptions.validate` enforces, plus positivity of `dt_init`) -/
structure Sane (o : AdaptOpts K) : Prop where
  init_pos : 0 < o.dtInit
  init_le : o.dtInit ≤ o.dtMaxOpt
  mult_pos : 0 < o.mult
  mult_lt : o.mult < 1
  floor_pos : 0 < o.floor
  half_eq : o.half = 1 / 2

omit [Field K] [IsStrictOrderedRing K] in
private theorem pyMax_eq (a b : K) : pyMax a b = max a b := by
  unfold pyMax
  split_ifs with h
  · exact (max_eq_right h.le).symm
  · exact (max_eq_left (not_lt.mp h)).symm

omit [Field K] [IsStrictOrderedRing K] in
private theorem clip_eq (x lo hi : K) : clip x lo hi = min (max x lo) hi := by
  unfold clip
  have e : (if x < lo then lo else x) = max x lo := by
    split_ifs with h
    · exact (max_eq_right h.le).symm
    · exact (max_eq_left (not_lt.mp h)).symm
  simp only [e]
  split_ifs with h
  · exact (min_eq_right h.le).symm
  · exact (min_eq_left (not_lt.mp h)).symm

/-- A refused update is retried with the step multiplied by the configured factor: the step used is
    `tentative · mult^r` where `r ≤ max_retries + 1` is the number of refusals, all earlier attempts
    were refused and the used one accepted. -/
theorem C12_retry (o : AdaptOpts K) (ok : K → Bool) (t dt : K) (h : dtUsed o ok t = some dt) :
    ∃ r, r ≤ o.maxRetries + 1 ∧ dt = t * o.mult ^ r ∧ ok dt = true ∧
      (∀ j, j < r → ok (t * o.mult ^ j) = false) ∧ (0 < r → o.adaptive = true) := by
  exact eulerRetry_some h

/-- Exhausting the retries raises an error instead of continuing: if the first `max_retries + 2`
    attempts are all refused, no time step is returned. -/
theorem C12_exhaustion (o : AdaptOpts K) (ok : K → Bool) (t : K)
    (h : ∀ j, j ≤ o.maxRetries + 1 → ok (t * o.mult ^ j) = false) :
    dtUsed o ok t = none := by
  cases hd : dtUsed o ok t with
  | none => rfl
  | some dt =>
    obtain ⟨r, hr, rfl, hok, -⟩ := eulerRetry_some hd
    rw [h r hr] at hok
    cases hok

/-- With adaptivity off, a refused update is an error (no retry). -/
theorem C12_nonadaptive_refusal_is_error (o : AdaptOpts K) (ok : K → Bool) (t : K)
    (ha : o.adaptive = false) (h : ok t = false) : dtUsed o ok t = none := by
  rw [dtUsed, ha]
  exact eulerRetry_fixed_of_not_ok _ _ h

private theorem proposal_pos (o : AdaptOpts K) (hs : Sane o) (l : List K) (dt : K) (hdt : 0 < dt) :
    0 < o.half * (o.dtInit / pyMax o.floor (mean l) + dt) := by
  have hm : 0 < pyMax o.floor (mean l) := by
    rw [pyMax_eq]
    exact lt_of_lt_of_le hs.floor_pos (le_max_left _ _)
  have h1 : 0 < o.dtInit / pyMax o.floor (mean l) := div_pos hs.init_pos hm
  rw [hs.half_eq]
  exact mul_pos one_half_pos (add_pos h1 hdt)

/-- The documented rule: after the warm-up window the proposed step is
    `min(½ (dt + dt_init/δ), dt_max)` with `δ = max(1e-10, mean of the last `window` changes)`. -/
theorem C12_rule (o : AdaptOpts K) (hs : Sane o) (st : AdaptState K) (step : ℕ) (dt d : K)
    (ha : o.adaptive = true) (hw : o.window < step) (hdt : 0 < dt) :
    (adaptAfter o st step dt d).tentative
      = min (1 / 2 * (dt + o.dtInit / max o.floor (mean (lastN (st.hist ++ [d]) o.window)))) o.dtMaxOpt := by
  have hp := proposal_pos o hs (lastN (st.hist ++ [d]) o.window) dt hdt
  have hmax : o.dtMax = o.dtMaxOpt := by simp [AdaptOpts.dtMax, ha]
  unfold adaptAfter
  simp only [ha, hw, if_true]
  rw [clip_eq, max_eq_left hp.le, hmax, hs.half_eq, pyMax_eq, add_comm]

/-- Before the warm-up window is over (and always with adaptivity off) the proposal is unchanged. -/
theorem C12_warmup (o : AdaptOpts K) (st : AdaptState K) (step : ℕ) (dt d : K)
    (h : o.adaptive = false ∨ step ≤ o.window) :
    (adaptAfter o st step dt d).tentative = st.tentative := by
  unfold adaptAfter
  rcases h with h | h
  · simp [h]
  · have : ¬ o.window < step := not_lt.mpr h
    split_ifs <;> rfl

/-- Invariant of the controller: the tentative step stays in `(0, dt_max]`. -/
theorem C12_tentative_bounds (o : AdaptOpts K) (hs : Sane o) (st : AdaptState K) (step : ℕ) (dt d : K)
    (hst : 0 < st.tentative ∧ st.tentative ≤ o.dtMax) (hdt : 0 < dt) (hd : 0 ≤ d)
    (hh : ∀ x ∈ st.hist, 0 ≤ x) :
    0 < (adaptAfter o st step dt d).tentative ∧ (adaptAfter o st step dt d).tentative ≤ o.dtMax ∧
    (∀ x ∈ (adaptAfter o st step dt d).hist, 0 ≤ x) := by
  have hmaxpos : 0 < o.dtMax := lt_of_lt_of_le hst.1 hst.2
  have hhist : ∀ x ∈ st.hist ++ [d], 0 ≤ x := by
    intro x hx
    rcases List.mem_append.mp hx with hx | hx
    · exact hh x hx
    · rw [List.mem_singleton.mp hx]; exact hd
  unfold adaptAfter
  split_ifs with ha hw
  · have hp := proposal_pos o hs (lastN (st.hist ++ [d]) o.window) dt hdt
    refine ⟨?_, ?_, hhist⟩
    · show 0 < clip _ _ _
      rw [clip_eq, max_eq_left hp.le]
      exact lt_min hp hmaxpos
    · show clip _ _ _ ≤ _
      rw [clip_eq]
      exact min_le_right _ _
  · exact ⟨hst.1, hst.2, hhist⟩
  · exact ⟨hst.1, hst.2, hh⟩

private theorem dtUsed_bounds (o : AdaptOpts K) (hs : Sane o) (ok : K → Bool) (t dt : K) (ht : 0 < t)
    (h : dtUsed o ok t = some dt) : 0 < dt ∧ dt ≤ t := by
  obtain ⟨r, _, hdt, _⟩ := C12_retry o ok t dt h
  subst hdt
  refine ⟨mul_pos ht (pow_pos hs.mult_pos r), ?_⟩
  exact mul_le_of_le_one_right ht.le (pow_le_one₀ hs.mult_pos.le hs.mult_lt.le)

/-- **One induction for the controller.**  An invariant `I` of the controller state that every used step keeps,
    while the used step satisfies `P`, holds along a whole run, and all its steps satisfy `P`. -/
theorem adaptRun_inv {o : AdaptOpts K} {ok : ℕ → K → Bool} {d : ℕ → K} {I : AdaptState K → Prop} {P : K → Prop}
    (hstep : ∀ i st dt, I st → dtUsed o (ok i) st.tentative = some dt → P dt ∧ I (adaptAfter o st i dt (d i))) :
    ∀ (n i : ℕ) (st : AdaptState K) (dts : List K) (st' : AdaptState K), I st →
      adaptRun o ok d n i st = some (dts, st') → dts.length = n ∧ (∀ x ∈ dts, P x) ∧ I st' := by
  intro n
  induction n with
  | zero =>
    intro i st dts st' hI h
    obtain ⟨rfl, rfl⟩ := Prod.mk.inj (Option.some.inj h)
    exact ⟨rfl, fun x hx => absurd hx List.not_mem_nil, hI⟩
  | succ n ih =>
    intro i st dts st' hI h
    rw [adaptRun] at h
    cases hu : dtUsed o (ok i) st.tentative with
    | none => rw [hu] at h; cases h
    | some dt =>
      rw [hu] at h
      simp only at h
      obtain ⟨hP, hI'⟩ := hstep i st dt hI hu
      cases hr : adaptRun o ok d n (i + 1) (adaptAfter o st i dt (d i)) with
      | none => rw [hr] at h; cases h
      | some p =>
        rw [hr] at h
        simp only at h
        obtain ⟨rfl, rfl⟩ := Prod.mk.inj (Option.some.inj h)
        obtain ⟨hlen, hall, hI''⟩ := ih (i + 1) _ p.1 p.2 hI' hr
        refine ⟨by rw [List.length_cons, hlen], fun x hx => ?_, hI''⟩
        rcases List.mem_cons.mp hx with rfl | hx
        · exact hP
        · exact hall x hx

/-- Every time step used in a run is positive and at most the configured maximum
    (`dt_max`, or `dt_init` when adaptivity is off), for every refusal oracle and every history of
    non-negative changes. -/
theorem C12_bounds (o : AdaptOpts K) (hs : Sane o) (ok : ℕ → K → Bool) (d : ℕ → K) (hd : ∀ i, 0 ≤ d i)
    (n i : ℕ) (st : AdaptState K) (hst : 0 < st.tentative ∧ st.tentative ≤ o.dtMax)
    (hh : ∀ x ∈ st.hist, 0 ≤ x) (dts : List K) (st' : AdaptState K)
    (h : adaptRun o ok d n i st = some (dts, st')) :
    dts.length = n ∧ ∀ x ∈ dts, 0 < x ∧ x ≤ o.dtMax := by
  have := adaptRun_inv (I := fun st => (0 < st.tentative ∧ st.tentative ≤ o.dtMax) ∧ ∀ x ∈ st.hist, 0 ≤ x)
    (P := fun x => 0 < x ∧ x ≤ o.dtMax) (fun i st dt hI hu => ?_) n i st dts st' ⟨hst, hh⟩ h
  · exact ⟨this.1, this.2.1⟩
  · have hb := dtUsed_bounds o hs (ok i) st.tentative dt hI.1.1 hu
    have htb := C12_tentative_bounds o hs st i dt (d i) hI.1 hb.1 (hd i) hI.2
    exact ⟨⟨hb.1, le_trans hb.2 hI.1.2⟩, ⟨htb.1, htb.2.1⟩, htb.2.2⟩

/-- With adaptivity off every step equals the initial step. -/
theorem C12_fixed (o : AdaptOpts K) (ok : ℕ → K → Bool) (d : ℕ → K) (ha : o.adaptive = false)
    (n i : ℕ) (dts : List K) (st' : AdaptState K)
    (h : adaptRun o ok d n i (AdaptState.init o) = some (dts, st')) :
    ∀ x ∈ dts, x = o.dtInit := by
  refine (adaptRun_inv (I := fun st => st.tentative = o.dtInit) (P := fun x => x = o.dtInit)
    (fun i st dt hI hu => ?_) n i _ dts st' rfl h).2.1
  have hA : adaptAfter o st i dt (d i) = st := by unfold adaptAfter; rw [if_neg (by rw [ha]; exact Bool.false_ne_true)]
  rw [hA]
  exact ⟨(dtUsed_fixed ha hu).trans hI, hI⟩

end Tdgl.C12
