/-
  C10 — refreshing link variables in place equals rebuilding the operators.
  Model: `clapEntry`/`cgradEntry` (what the builders assemble), `refreshLap`/`refreshGrad`
  (the overwrite branch of `MeshOperators.set_link_exponents`).  Any field, any well-formed mesh,
  any set of pinned rows, any finite history of link variables.
-/
import Mathlib.Algebra.BigOperators.Group.Finset.Basic
import Mathlib.Algebra.BigOperators.Ring.Finset
import Mathlib.Algebra.BigOperators.Group.Finset.Sigma
import Mathlib.Algebra.Field.Basic
import Mathlib.Tactic.Ring
import Mathlib.Tactic.Linarith
import Tdgl.Lemmas.Operators

open Finset Tdgl

namespace Tdgl.C10

variable {K : Type} [Field K]

/-- the entry does not see the link variables when the row is pinned or `(i, j)` is not a link position -/
private theorem clapEntry_nolink (m : FVMesh K) (fixed : ℕ → Bool) (U₁ U₂ : ℕ → Cx K) (i j : ℕ)
    (h : fixed i = false → ∀ e, e < m.E → ¬ (m.e0 e = i ∧ m.e1 e = j) ∧ ¬ (m.e1 e = i ∧ m.e0 e = j)) :
    clapEntry m fixed U₁ i j = clapEntry m fixed U₂ i j := by
  unfold clapEntry
  congr 1
  refine csumTo_congr fun e he => ?_
  have h1 : ¬ (m.e0 e = i ∧ m.e1 e = j ∧ fixed i = false) := fun hh => (h hh.2.2 e he).1 ⟨hh.1, hh.2.1⟩
  have h2 : ¬ (m.e1 e = i ∧ m.e0 e = j ∧ fixed i = false) := fun hh => (h hh.2.2 e he).2 ⟨hh.1, hh.2.1⟩
  simp only [if_neg h1, if_neg h2]

/-- at a link position with a free row the entry is the single link value: no other edge joins the same two sites,
    none joins them the other way round (`e0 < e1`), and `i ≠ j` keeps the diagonal blocks out -/
private theorem clapEntry_link (m : FVMesh K) (hm : m.WF) (fixed : ℕ → Bool) (U : ℕ → Cx K) (t : ℕ)
    (ht : t < 2 * m.E) (hf : fixed (linkRow m t) = false) :
    clapEntry m fixed U (linkRow m t) (linkCol m t) = linkVal m U t := by
  unfold linkRow at hf
  unfold clapEntry linkRow linkCol linkVal
  by_cases htE : t < m.E
  · simp only [if_pos htE] at hf ⊢
    have hlt := hm.lt t htE
    rw [csumTo_single htE]
    · simp [hf, hlt.ne, hlt.ne', Cx.add_zero]
    · intro e' he' hne
      have hlt' := hm.lt e' he'
      have c1 : ¬ (m.e0 e' = m.e0 t ∧ m.e1 e' = m.e1 t ∧ fixed (m.e0 t) = false) := fun hh =>
        hne (hm.distinct e' t he' htE hh.1 hh.2.1)
      have c2 : ¬ (m.e1 e' = m.e0 t ∧ m.e0 e' = m.e1 t ∧ fixed (m.e0 t) = false) := by rintro ⟨a, b, -⟩; omega
      have c3 : ¬ (m.e0 e' = m.e0 t ∧ m.e0 e' = m.e1 t ∧ fixed (m.e0 t) = false) := by rintro ⟨a, b, -⟩; omega
      have c4 : ¬ (m.e1 e' = m.e0 t ∧ m.e1 e' = m.e1 t ∧ fixed (m.e0 t) = false) := by rintro ⟨a, b, -⟩; omega
      simp only [if_neg c1, if_neg c2, if_neg c3, if_neg c4, Cx.add_zero]
  · simp only [if_neg htE] at hf ⊢
    have hs : t - m.E < m.E := by omega
    generalize t - m.E = s at hs hf ⊢
    have hlt := hm.lt s hs
    rw [csumTo_single hs]
    · simp [hf, hlt.ne, hlt.ne', Cx.add_zero, Cx.zero_add]
    · intro e' he' hne
      have hlt' := hm.lt e' he'
      have c1 : ¬ (m.e0 e' = m.e1 s ∧ m.e1 e' = m.e0 s ∧ fixed (m.e1 s) = false) := by rintro ⟨a, b, -⟩; omega
      have c2 : ¬ (m.e1 e' = m.e1 s ∧ m.e0 e' = m.e0 s ∧ fixed (m.e1 s) = false) := fun hh =>
        hne (hm.distinct e' s he' hs hh.2.1 hh.1)
      have c3 : ¬ (m.e0 e' = m.e1 s ∧ m.e0 e' = m.e0 s ∧ fixed (m.e1 s) = false) := by rintro ⟨a, b, -⟩; omega
      have c4 : ¬ (m.e1 e' = m.e1 s ∧ m.e1 e' = m.e0 s ∧ fixed (m.e1 s) = false) := by rintro ⟨a, b, -⟩; omega
      simp only [if_neg c1, if_neg c2, if_neg c3, if_neg c4, Cx.add_zero]

/-- One refresh of the Laplacian built for `U₁` with `U₂` gives, entry by entry, the Laplacian built
    from scratch for `U₂` — including the identity rows of pinned sites. -/
theorem C10_refresh_lap_eq_build (m : FVMesh K) (hm : m.WF) (fixed : ℕ → Bool) (U₁ U₂ : ℕ → Cx K)
    (i j : ℕ) :
    refreshLap m fixed (clapEntry m fixed U₁) U₂ i j = clapEntry m fixed U₂ i j := by
  unfold refreshLap
  by_cases h : ∃ t, t < 2 * m.E ∧ ((!fixed (linkRow m t)) = true ∧ linkRow m t = i ∧ linkCol m t = j)
  · -- every kept position that addresses `(i, j)` writes the entry built for `U₂`
    refine setMany_match _ _ _ _ _ _ _ _ _ h ?_
    rintro s hs ⟨hk, rfl, rfl⟩
    exact (clapEntry_link m hm fixed U₂ s hs (by simpa using hk)).symm
  · -- `(i, j)` is not written, and then it is no link position of a free row
    rw [setMany_none _ _ _ _ _ _ _ _ fun t ht hp => h ⟨t, ht, hp⟩]
    refine clapEntry_nolink m fixed U₁ U₂ i j fun hf e he => ⟨fun hp => h ⟨e, by omega, ?_⟩, fun hp => h ⟨m.E + e, by omega, ?_⟩⟩
    · simp [linkRow, linkCol, he, hp.1, hp.2, hf]
    · simp [linkRow, linkCol, hp.1, hp.2, hf]

/-- Why `C10_refresh_grad_eq_build` needs `e < m.E`: `cgradEntry m U e j` is not guarded by
    `e < m.E` (it reads `U e`, `m.e1 e`, `m.len e` for any `e`), whereas `refreshGrad` only touches
    rows `< m.E`.  On the empty (hence well-formed) mesh the unrestricted statement fails at row 0. -/
theorem refresh_grad_unrestricted_false :
    ∃ (m : FVMesh K) (_ : m.WF) (U₁ U₂ : ℕ → Cx K) (e j : ℕ),
      refreshGrad m (cgradEntry m U₁) U₂ e j ≠ cgradEntry m U₂ e j := by
  refine ⟨⟨0, 0, fun _ => 0, fun _ => 0, fun _ => 1, fun _ => 1, fun _ => 1, 0, fun _ => 0⟩,
    ⟨?_, ?_, ?_, ?_, ?_⟩, fun _ => Cx.zero, fun _ => Cx.one, 0, 0, ?_⟩
  · intro e he; exact absurd he (Nat.not_lt_zero e)
  · intro e he; exact absurd he (Nat.not_lt_zero e)
  · intro e e' he; exact absurd he (Nat.not_lt_zero e)
  · intro e he; exact absurd he (Nat.not_lt_zero e)
  · intro e e' he; exact absurd he (Nat.not_lt_zero e)
  · intro h
    have h' := congrArg Cx.re h
    simp [refreshGrad, setMany, cgradEntry, Cx.add, Cx.smul, Cx.ofReal, Cx.zero, Cx.one] at h'

/-- Same for the covariant gradient. -/
-- STATEMENT CHANGED: added the hypothesis `(he : e < m.E)` (row index of the `E × n` gradient
-- matrix is an actual edge).  Without it the statement is false, see
-- `refresh_grad_unrestricted_false` above: rows `e ≥ m.E` are never refreshed but the model
-- `cgradEntry` still depends on `U e` there.  Harmless weakening: the matrix has only `m.E` rows.
theorem C10_refresh_grad_eq_build (m : FVMesh K) (hm : m.WF) (U₁ U₂ : ℕ → Cx K) (e j : ℕ)
    (he : e < m.E) :
    refreshGrad m (cgradEntry m U₁) U₂ e j = cgradEntry m U₂ e j := by
  unfold refreshGrad
  by_cases h1 : m.e1 e = j
  · have hlt := hm.lt e he
    have h0 : ¬ (m.e0 e = j) := by omega
    rw [setMany_match _ _ _ _ _ _ _ _ (Cx.smul ((1 : K) / m.len e) (U₂ e))]
    · simp only [cgradEntry, if_pos h1, if_neg h0, Cx.add_zero]
    · exact ⟨e, he, rfl, rfl, h1⟩
    · rintro s - ⟨-, hr, -⟩
      have hse : s = e := hr
      rw [hse]
  · rw [setMany_none]
    · simp only [cgradEntry, if_neg h1]
    · rintro t - ⟨-, hr, hc⟩
      have hte : t = e := hr
      rw [hte] at hc
      exact h1 hc

/-- After any finite history of vector potentials (first call builds, later calls refresh) the
    Laplacian in use is the one built from scratch for the latest one. -/
theorem C10_history_lap (m : FVMesh K) (hm : m.WF) (fixed : ℕ → Bool) (U₀ : ℕ → Cx K)
    (Us : List (ℕ → Cx K)) :
    Us.foldl (refreshLap m fixed) (clapEntry m fixed U₀) = clapEntry m fixed ((U₀ :: Us).getLast (by simp)) := by
  induction Us generalizing U₀ with
  | nil => rfl
  | cons U Us ih =>
    have h : refreshLap m fixed (clapEntry m fixed U₀) U = clapEntry m fixed U := by
      funext i j
      exact C10_refresh_lap_eq_build m hm fixed U₀ U i j
    rw [List.foldl_cons, h, ih U]
    rfl

private theorem history_grad_aux (m : FVMesh K) (hm : m.WF) (Us : List (ℕ → Cx K)) :
    ∀ (U₀ : ℕ → Cx K) (M : ℕ → ℕ → Cx K), (∀ e j, e < m.E → M e j = cgradEntry m U₀ e j) →
      ∀ e j, e < m.E →
        Us.foldl (refreshGrad m) M e j = cgradEntry m ((U₀ :: Us).getLast (by simp)) e j := by
  induction Us with
  | nil => intro U₀ M hM e j he; exact hM e j he
  | cons U Us ih =>
    intro U₀ M hM e j he
    rw [List.foldl_cons]
    have h := ih U (refreshGrad m M U) (fun e' j' he' => by
      have hc : refreshGrad m M U e' j' = refreshGrad m (cgradEntry m U₀) U e' j' :=
        setMany_congr _ _ _ _ _ _ _ _ _ (hM e' j' he')
      rw [hc]
      exact C10_refresh_grad_eq_build m hm U₀ U e' j' he') e j he
    rw [h]
    rfl

-- STATEMENT CHANGED: the original claimed equality of the two functions `ℕ → ℕ → Cx K` on all
-- of `ℕ × ℕ`; that is false for the same reason as above (take `Us = [U₂]`).  The conclusion is now
-- stated entry-wise for the rows `e < m.E` of the `E × n` gradient matrix.
theorem C10_history_grad (m : FVMesh K) (hm : m.WF) (U₀ : ℕ → Cx K) (Us : List (ℕ → Cx K))
    (e j : ℕ) (he : e < m.E) :
    Us.foldl (refreshGrad m) (cgradEntry m U₀) e j
      = cgradEntry m ((U₀ :: Us).getLast (by simp)) e j :=
  history_grad_aux m hm Us U₀ (cgradEntry m U₀) (fun _ _ _ => rfl) e j he

private theorem sum_ind_mul (p : Prop) [Decidable p] {n k : ℕ} (a : ℂ) (hk : k < n) (ψ : ℕ → ℂ) :
    ∑ j ∈ range n, (if p ∧ k = j then a else 0) * ψ j = if p then a * ψ k else 0 := by
  by_cases hp : p
  · simp [hp, ite_mul, Finset.sum_ite_eq, hk]
  · simp [hp]

/-- The assembled entries are the matrix of the row action used by the solver:
    `(L ψ)_r = Σ_j L_{rj} ψ_j`. Ties the entry-level model to `clapRow`. -/
theorem C10_entries_act (m : FVMesh ℝ) (hm : m.WF) (fixed : ℕ → Bool) (U psi : ℕ → Cx ℝ) (r : ℕ)
    (hr : r < m.n) :
    clapRow m fixed U psi r = csumTo (fun j => Cx.mul (clapEntry m fixed U r j) (psi j)) m.n := by
  apply toC_injective
  rw [toC_csumTo]
  unfold clapRow clapEntry
  by_cases hf : fixed r = true
  · rw [if_pos hf]
    simp only [toC_mul, toC_add, toC_csumTo, apply_ite toC, toC_zero, toC_one, hf, Bool.true_eq_false,
      and_false, if_false, true_and, add_zero, Finset.sum_const_zero, zero_add, ite_mul, one_mul,
      zero_mul, Finset.sum_ite_eq, Finset.mem_range, hr, if_true]
  · have hf' : fixed r = false := by simpa using hf
    rw [if_neg hf]
    simp only [toC_mul, toC_add, toC_csumTo, apply_ite toC, toC_zero, toC_smul, toC_conj,
      toC_ofReal, hf', and_true, Bool.false_eq_true, false_and, if_false, add_zero]
    simp only [Finset.sum_mul]
    rw [Finset.sum_comm]
    apply Finset.sum_congr rfl
    intro e he
    have he' : e < m.E := Finset.mem_range.mp he
    have h1 : m.e1 e < m.n := hm.inRange e he'
    have h0 : m.e0 e < m.n := lt_trans (hm.lt e he') h1
    simp only [add_mul, Finset.sum_add_distrib, sum_ind_mul _ _ h0, sum_ind_mul _ _ h1]

end Tdgl.C10
