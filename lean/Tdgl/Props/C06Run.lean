/-
  C06 / C04 at run level with the repaired update (terminal value re-imposed after every Euler step).
  Models: `fullStepP`, `runStepsP`, `eulerPinnedFn` in Tdgl/Update.lean.   (K := ℝ)
-/
import Mathlib.Analysis.SpecialFunctions.Trigonometric.Basic
import Mathlib.Tactic.Ring
import Mathlib.Tactic.Common
import Tdgl.Lemmas.RealInst
import Tdgl.Lemmas.Update
import Tdgl.Update
import Tdgl.Props.C04
import Tdgl.Props.C06

open Tdgl Tdgl.C04

namespace Tdgl.C06

/-- After every answered update the order parameter on every pinned site is exactly the configured terminal
    value — at every step of a run of any length (`k ≥ 1`), whatever the fields, currents and link variables. -/
theorem C06_run_value_held (m : FVMesh ℝ) (fixed : ℕ → Bool) (v : Cx ℝ) (U : ℕ → Cx ℝ)
    (solve : (ℕ → ℝ) → (ℕ → ℝ)) (eps : ℕ → ℝ) (gamma u dt : ℝ) (mb : ℕ → ℝ) (k : ℕ) (s s' : MState ℝ)
    (h : runStepsP m fixed (some v) U solve eps gamma u dt mb (k + 1) s = some s') (r : ℕ)
    (hf : fixed r = true) : s'.psi r = v := by
  refine runStepsP_last (P := fun s' => s'.psi r = v) (fun s s' h1 => ?_) k s s' h
  rw [fullStepP_eq] at h1
  obtain ⟨out, hout, rfl⟩ := Option.map_eq_some_iff.mp h1
  show (out r).1 = v
  rw [C06_value_held m fixed v U s.psi _ s.mu eps gamma u dt out hout r hf]

/-- With `terminal_psi = None` the pinned update is the free update. -/
theorem C06_run_none_is_free (m : FVMesh ℝ) (terminal : ℕ → Bool) (U : ℕ → Cx ℝ)
    (solve : (ℕ → ℝ) → (ℕ → ℝ)) (eps : ℕ → ℝ) (gamma u dt : ℝ) (mb : ℕ → ℝ) (s : MState ℝ) :
    fullStepP m (fun _ => false) none U solve eps gamma u dt mb s
      = fullStep m (fun _ => false) U solve eps gamma u dt mb s :=
  (fullStep_eq ..).symm

/-- Gauge covariance survives pinning to zero (the default normal-metal contact): one pinned update maps
    gauge-related states to gauge-related states, or is refused in both gauges. -/
theorem C04_pinned_zero_step_covariant (m : FVMesh ℝ) (fixed : ℕ → Bool) (theta chi : ℕ → ℝ)
    (solve : (ℕ → ℝ) → (ℕ → ℝ)) (eps : ℕ → ℝ) (gamma u dt : ℝ) (mb : ℕ → ℝ)
    (s s' : MState ℝ) (h : GaugeRel chi s s') :
    match fullStepP m fixed (some ⟨0, 0⟩) (linkOf theta) solve eps gamma u dt mb s,
          fullStepP m fixed (some ⟨0, 0⟩) (linkOf (gaugeTheta m theta chi)) solve eps gamma u dt mb s' with
    | some t, some t' => GaugeRel chi t t'
    | none, none => True
    | _, _ => False := by
  rcases (fullStepP_gauge m fixed (Or.inr rfl) theta chi solve eps gamma u dt mb s s' h) with
    ⟨hx, hy⟩ | ⟨t, t', hx, hy, ht⟩ <;> rw [hx, hy]
  · trivial
  · exact ht

end Tdgl.C06
