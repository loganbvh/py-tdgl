/-
  C07 — the connectivity part: the edge list, the boundary flags and the boundary sites computed from the
  triangle list are exactly "the sides of the triangles, each once, in lexicographic order", "the sides that
  belong to exactly one triangle" and "their end points".  Model: Tdgl/Topology.lean.
-/
import Mathlib.Data.List.Sort
import Mathlib.Tactic.Common
import Tdgl.Topology
import Tdgl.Lemmas.SortDedup

open Tdgl

namespace Tdgl.C07

/-- the strict lexicographic order on edges -/
def edgeLt (a b : Edge) : Prop := a.1 < b.1 ∨ (a.1 = b.1 ∧ a.2 < b.2)

/-! ### the lexicographic order -/

private theorem edgeLe_iff {a b : Edge} : edgeLe a b = true ↔ a.1 < b.1 ∨ a.1 = b.1 ∧ a.2 ≤ b.2 := by
  simp only [edgeLe, Bool.or_eq_true, Bool.and_eq_true, decide_eq_true_eq, beq_iff_eq]

private theorem edgeLe_trans (a b c : Edge) :
    edgeLe a b = true → edgeLe b c = true → edgeLe a c = true := by
  simp only [edgeLe_iff]; omega

private theorem edgeLe_total (a b : Edge) : (edgeLe a b || edgeLe b a) = true := by
  simp only [Bool.or_eq_true, edgeLe_iff]; omega

private theorem edgeLe_antisymm (a b : Edge) : edgeLe a b = true → edgeLe b a = true → a = b := by
  simp only [edgeLe_iff, Prod.ext_iff]; omega

private theorem edgeLe_refl (a : Edge) : edgeLe a a = true := edgeLe_iff.2 (by omega)

private theorem edgeLt_of_le_of_ne {a b : Edge} (h : edgeLe a b = true) (hne : a ≠ b) : edgeLt a b := by
  simp only [edgeLe_iff, ne_eq, Prod.ext_iff, edgeLt] at *; omega

private theorem edgeLt_of_lt_of_le {a b c : Edge} (h : edgeLt a b) (h' : edgeLe b c = true) : edgeLt a c := by
  simp only [edgeLe_iff, edgeLt] at *; omega

private theorem edgeLt_ne {a b : Edge} (h : edgeLt a b) : a ≠ b := by
  rintro rfl
  simp only [edgeLt] at h
  omega

private theorem natLe_trans (a b c : ℕ) : decide (a ≤ b) = true → decide (b ≤ c) = true → decide (a ≤ c) = true := by
  simp only [decide_eq_true_eq]; omega

private theorem natLe_total (a b : ℕ) : (decide (a ≤ b) || decide (b ≤ a)) = true := by
  simp only [Bool.or_eq_true, decide_eq_true_eq]; omega

/-! ### membership and multiplicity -/

private theorem mem_allSides (ts : List Tri) (e : Edge) :
    e ∈ allSides ts ↔ ∃ t ∈ ts, hasSide t e = true := by
  simp only [allSides, hasSide, List.mem_append, List.mem_map, Bool.or_eq_true, beq_iff_eq, and_or_left,
    exists_or]

private theorem mem_getEdges (ts : List Tri) (e : Edge) : e ∈ getEdges ts ↔ e ∈ allSides ts := by
  simp only [getEdges, dedupAdj_eq, mem_dedupAdjacent, List.mem_mergeSort]

private theorem sortPair_le (a b : ℕ) : (sortPair a b).1 ≤ (sortPair a b).2 := by
  unfold sortPair; split <;> simp <;> omega

private theorem sortPair_ne {a b c : ℕ} (_ : a ≠ b) (_ : b ≠ c) (_ : c ≠ a) :
    sortPair a b ≠ sortPair b c := by
  unfold sortPair
  split <;> split <;> simp only [ne_eq, Prod.mk.injEq, not_and] <;> omega

private theorem count_map_eq (f : Tri → Edge) (e : Edge) (ts : List Tri) :
    (ts.map f).count e = ts.countP (fun t => f t == e) := by
  rw [List.count_eq_countP, List.countP_map]; rfl

private theorem sideCount_eq (ts : List Tri)
    (hnd : ∀ t ∈ ts, t.1 ≠ t.2.1 ∧ t.2.1 ≠ t.2.2 ∧ t.2.2 ≠ t.1) (e : Edge) :
    sideCount ts e = ts.countP (fun t => hasSide t e) := by
  simp only [sideCount, allSides, List.count_append, count_map_eq]
  induction ts with
  | nil => simp
  | cons t ts ih =>
    have ih := ih (fun t' ht' => hnd t' (List.mem_cons_of_mem _ ht'))
    obtain ⟨h1, h2, h3⟩ := hnd t (by simp)
    simp only [List.countP_cons]
    rw [← ih]
    have e12 := sortPair_ne h1 h2 h3
    have e23 := sortPair_ne h2 h3 h1
    have e31 := sortPair_ne h3 h1 h2
    simp only [hasSide]
    by_cases p1 : sortPair t.1 t.2.1 = e
    · have p2 : ¬ sortPair t.2.1 t.2.2 = e := fun h => e12 (p1.trans h.symm)
      have p3 : ¬ sortPair t.2.2 t.1 = e := fun h => e31 (h.trans p1.symm)
      simp [p1, p2, p3]; omega
    · by_cases p2 : sortPair t.2.1 t.2.2 = e
      · have p3 : ¬ sortPair t.2.2 t.1 = e := fun h => e23 (p2.trans h.symm)
        simp [p1, p2, p3]; omega
      · by_cases p3 : sortPair t.2.2 t.1 = e
        · simp [p1, p2, p3]; omega
        · simp [p1, p2, p3]

private theorem adjacentTris_length (ts : List Tri) (e : Edge) :
    (adjacentTris ts e).length = ts.countP (fun t => hasSide t e) := by
  simp only [adjacentTris, List.length_map, ← List.countP_eq_length_filter]
  conv_rhs => rw [← List.zipIdx_map_fst 0 ts, List.countP_map]
  rfl

/-- every edge has its smaller index first -/
theorem C07_edges_oriented (ts : List Tri) (e : Edge) (h : e ∈ getEdges ts) : e.1 ≤ e.2 := by
  rw [mem_getEdges] at h
  simp only [allSides, List.mem_append, List.mem_map] at h
  rcases h with (⟨t, _, rfl⟩ | ⟨t, _, rfl⟩) | ⟨t, _, rfl⟩ <;> exact sortPair_le _ _

/-- an edge is listed iff it is a side of some triangle -/
theorem C07_edges_complete (ts : List Tri) (e : Edge) :
    e ∈ getEdges ts ↔ ∃ t ∈ ts, hasSide t e = true := by
  rw [mem_getEdges, mem_allSides]

/-- the edge list is strictly increasing in the lexicographic order: sorted, and no edge is listed twice -/
theorem C07_edges_strictly_sorted (ts : List Tri) : (getEdges ts).Pairwise edgeLt := by
  rw [getEdges, dedupAdj_eq]
  exact pairwise_dedupAdjacent edgeLe_refl edgeLt_of_le_of_ne edgeLt_of_lt_of_le _
    (List.pairwise_mergeSort edgeLe_trans edgeLe_total _)

theorem C07_edges_nodup (ts : List Tri) : (getEdges ts).Nodup :=
  (C07_edges_strictly_sorted ts).imp (fun h => edgeLt_ne h)

/-- for triangles with three distinct corners: the number of times a side occurs is the number of
    triangles that have it, so "boundary" means "belongs to exactly one triangle" -/
theorem C07_boundary_iff_one_triangle (ts : List Tri)
    (hnd : ∀ t ∈ ts, t.1 ≠ t.2.1 ∧ t.2.1 ≠ t.2.2 ∧ t.2.2 ≠ t.1) (e : Edge) :
    isBoundary ts e = true ↔ (adjacentTris ts e).length = 1 := by
  rw [adjacentTris_length, ← sideCount_eq ts hnd e]
  simp [isBoundary]

/-- the indices reported as boundary edges are exactly the positions of the boundary edges -/
theorem C07_boundary_edge_indices (ts : List Tri) (i : ℕ) :
    i ∈ boundaryEdgeIndices ts ↔ ∃ h : i < (getEdges ts).length, isBoundary ts ((getEdges ts)[i]) = true := by
  simp only [boundaryEdgeIndices, List.mem_map, List.mem_filter, List.mem_zipIdx_iff_getElem?]
  constructor
  · rintro ⟨⟨x, j⟩, ⟨hx, hb⟩, rfl⟩
    simp only at hx hb ⊢
    obtain ⟨hj, rfl⟩ := List.getElem?_eq_some_iff.1 hx
    exact ⟨hj, hb⟩
  · rintro ⟨hi, hb⟩
    exact ⟨((getEdges ts)[i], i), ⟨List.getElem?_eq_getElem hi, hb⟩, rfl⟩

/-- the boundary sites are exactly the end points of boundary edges -/
theorem C07_boundary_sites (ts : List Tri) (s : ℕ) :
    s ∈ boundarySites ts ↔ ∃ e ∈ getEdges ts, isBoundary ts e = true ∧ (s = e.1 ∨ s = e.2) := by
  simp only [boundarySites, dedupNat_eq, mem_dedupAdjacent, List.mem_mergeSort, List.mem_flatMap, List.mem_filter,
    List.mem_cons, List.not_mem_nil, or_false, and_assoc]

/-- … listed in increasing order without repetition -/
theorem C07_boundary_sites_sorted (ts : List Tri) : (boundarySites ts).Pairwise (· < ·) := by
  rw [boundarySites, dedupNat_eq]
  exact pairwise_dedupAdjacent (le := (· ≤ ·)) Nat.le_refl Nat.lt_of_le_of_ne Nat.lt_of_lt_of_le _
    ((List.pairwise_mergeSort natLe_trans natLe_total _).imp of_decide_eq_true)

/-- non-vacuity: two triangles sharing the side (1,2) -/
example : getEdges [(0, 1, 2), (1, 3, 2)] = [(0, 1), (0, 2), (1, 2), (1, 3), (2, 3)] ∧
    boundaryEdgeIndices [(0, 1, 2), (1, 3, 2)] = [0, 1, 3, 4] ∧
    boundarySites [(0, 1, 2), (1, 3, 2)] = [0, 1, 2, 3] ∧ adjacentTris [(0, 1, 2), (1, 3, 2)] (1, 2) = [0, 1] := by
  -- `mergeSort` does not reduce: its value is the sorted list that is a permutation of the input
  have hs : (allSides [(0, 1, 2), (1, 3, 2)]).mergeSort edgeLe = [(0, 1), (0, 2), (1, 2), (1, 2), (1, 3), (2, 3)] :=
    mergeSort_eq_of_perm edgeLe_trans edgeLe_total edgeLe_antisymm (by decide) (by decide)
  have hg : getEdges [(0, 1, 2), (1, 3, 2)] = [(0, 1), (0, 2), (1, 2), (1, 3), (2, 3)] := by
    rw [getEdges, hs]; rfl
  have hn : [0, 1, 0, 2, 1, 3, 2, 3].mergeSort (fun a b => decide (a ≤ b)) = [0, 0, 1, 1, 2, 2, 3, 3] :=
    mergeSort_eq_of_perm natLe_trans natLe_total (fun a b => by simp only [decide_eq_true_eq]; omega)
      (by decide) (by decide)
  refine ⟨hg, ?_, ?_, by decide⟩
  · rw [boundaryEdgeIndices, hg]; decide
  · simp only [boundarySites, hg]
    rw [show (List.filter (isBoundary [(0, 1, 2), (1, 3, 2)]) [(0, 1), (0, 2), (1, 2), (1, 3), (2, 3)]).flatMap
      (fun e => [e.1, e.2]) = [0, 1, 0, 2, 1, 3, 2, 3] by decide, hn]
    rfl

end Tdgl.C07
