/-
  C07 — "wherever the triangulation is locally Delaunay with unencroached boundary edges … each dual edge
  length equals the length of the clipped Voronoi face".          Model: Tdgl/Geometry.lean (dual edges).

  `get_dual_edge_lengths` takes the *unsigned* distance between the two circumcentres on an inner edge and the
  unsigned distance circumcentre – edge centre on a boundary edge.  The theorems below say exactly when that
  unsigned number is the signed Voronoi face:

    * every circumcentre sits on the perpendicular bisector at the signed offset `ccOffset` (= cot γ / 2);
    * the vector between the two circumcentres of an inner edge is `(s₁ + s₂) · perp(B − A)`, so the coded
      length is `|s₁ + s₂| · |AB|`;
    * `(s₁ + s₂) · 2 T₁ T₂ = − inCircle(A, B, C, D)`: for positively oriented triangles the signed face
      `s₁ + s₂` is non-negative **iff** the edge is locally Delaunay (the opposite vertex is not strictly
      inside the circumcircle) — this is why the property carries that hypothesis, and a non-Delaunay pair
      (`C07_nondelaunay_counterexample`) has a negative signed face whose absolute value the code reports;
    * on a boundary edge the signed half face `s₁` is non-negative iff the opposite vertex does not encroach
      the edge (lies outside its diametral circle);
    * the kite of a vertex is `¼ Σ |edge|² · offset`: the cell area is the sum over the edges at the site of a
      quarter of edge length times signed dual half-length (the finite-volume area identity).
-/
import Mathlib.Algebra.Order.Field.Basic
import Mathlib.Tactic.Ring
import Mathlib.Tactic.LinearCombination
import Mathlib.Tactic.Positivity
import Mathlib.Tactic.NormNum
import Mathlib.Algebra.Order.Field.Rat
import Tdgl.Geometry
import Tdgl.Lemmas.Triangle
import Tdgl.Props.C07

open Tdgl

namespace Tdgl.C07

section field
variable {K : Type} [Field K]

private theorem denom_ne' (A B C : Pt K) (h : triArea2 A B C ≠ 0) (h2 : (2 : K) ≠ 0) :
    2 * (B.1 - A.1) * (C.2 - A.2) - 2 * (B.2 - A.2) * (C.1 - A.1) ≠ 0 := by
  have e : 2 * (B.1 - A.1) * (C.2 - A.2) - 2 * (B.2 - A.2) * (C.1 - A.1) = 2 * triArea2 A B C := by
    simp only [triArea2]; ring
  rw [e]
  exact mul_ne_zero h2 h

/-- The coded circumcentre is the edge midpoint moved by `ccOffset · perp(B − A)`. -/
theorem C07_circumcentre_offset (A B C : Pt K) (h : triArea2 A B C ≠ 0) (h2 : (2 : K) ≠ 0) :
    (circumcentre A B C).1 = (mid A B).1 - ccOffset A B C * (B.2 - A.2) ∧
    (circumcentre A B C).2 = (mid A B).2 + ccOffset A B C * (B.1 - A.1) := by
  obtain ⟨e1, e2⟩ := circumcentre_atOffset A B C h h2
  simp only [mid]
  constructor
  · rw [eq_sub_iff_add_eq, eq_div_iff h2]; linear_combination e1
  · rw [← sub_eq_iff_eq_add, eq_div_iff h2]; linear_combination e2

/-- `triArea2 B A D = -(triArea2 A B D)` -/
private theorem triArea2_swap (A B D : Pt K) : triArea2 B A D = -(triArea2 A B D) := by
  simp only [triArea2]; ring

/-- The dual edge of an inner edge is `(s₁ + s₂) · perp(B − A)`: the vector between the two circumcentres. -/
theorem C07_dual_vector (A B C D : Pt K) (h1 : triArea2 A B C ≠ 0) (h2' : triArea2 B A D ≠ 0)
    (h2 : (2 : K) ≠ 0) :
    (circumcentre A B C).1 - (circumcentre B A D).1 = -((ccOffset A B C + ccOffset B A D) * (B.2 - A.2)) ∧
    (circumcentre A B C).2 - (circumcentre B A D).2 = (ccOffset A B C + ccOffset B A D) * (B.1 - A.1) := by
  obtain ⟨e1, e2⟩ := C07_circumcentre_offset A B C h1 h2
  obtain ⟨f1, f2⟩ := C07_circumcentre_offset B A D h2' h2
  rw [e1, e2, f1, f2]
  simp only [mid]
  constructor <;> ring

/-- The coded (squared) dual length of an inner edge is `(s₁ + s₂)² |AB|²`. -/
theorem C07_dual_inner_sq (A B C D : Pt K) (h1 : triArea2 A B C ≠ 0) (h2' : triArea2 B A D ≠ 0)
    (h2 : (2 : K) ≠ 0) :
    dualInner2 A B C D = (ccOffset A B C + ccOffset B A D) ^ 2 * dist2 A B := by
  obtain ⟨e1, e2⟩ := C07_dual_vector A B C D h1 h2' h2
  simp only [dualInner2, dist2]
  rw [e1, e2]
  ring

/-- The coded (squared) dual length of a boundary edge is `s₁² |AB|²`. -/
theorem C07_dual_boundary_sq (A B C : Pt K) (h1 : triArea2 A B C ≠ 0) (h2 : (2 : K) ≠ 0) :
    dualBoundary2 A B C = (ccOffset A B C) ^ 2 * dist2 A B := by
  obtain ⟨e1, e2⟩ := C07_circumcentre_offset A B C h1 h2
  simp only [dualBoundary2, dist2]
  rw [e1, e2]
  ring

/-- The signed face of an inner edge against the in-circle determinant. -/
theorem C07_offset_sum_incircle (A B C D : Pt K) (h1 : triArea2 A B C ≠ 0) (h2' : triArea2 B A D ≠ 0)
    (h2 : (2 : K) ≠ 0) :
    (ccOffset A B C + ccOffset B A D) * (2 * triArea2 A B C * triArea2 B A D) = -(inCircle A B C D) := by
  calc (ccOffset A B C + ccOffset B A D) * (2 * triArea2 A B C * triArea2 B A D)
      = ccOffset A B C * (2 * triArea2 A B C) * triArea2 B A D
        + ccOffset B A D * (2 * triArea2 B A D) * triArea2 A B C := by ring
    _ = -(inCircle A B C D) := by
      rw [ccOffset_mul A B C h1 h2, ccOffset_mul B A D h2' h2]
      simp only [triArea2, inCircle]; ring

/-- One half of the kite of `A` in `(A, B, C)`: a quarter of `|AB|²` times the signed offset (doubled area). -/
theorem C07_kite_piece (A B C : Pt K) (h1 : triArea2 A B C ≠ 0) (h2 : (2 : K) ≠ 0) :
    triArea2 A (mid A B) (circumcentre A B C) = ccOffset A B C * dist2 A B / 2 := by
  rw [triArea2_mid_left _ _ _ h2, (circumcentre_atOffset A B C h1 h2).triArea2_eq h2]

/-- The other half of the kite of `A`, on the edge `CA` (offset of the same circumcentre seen from `(C, A, B)`). -/
theorem C07_kite_piece' (A B C : Pt K) (h1 : triArea2 A B C ≠ 0) (h2 : (2 : K) ≠ 0) :
    triArea2 A (circumcentre A B C) (mid A C) = ccOffset C A B * dist2 C A / 2 := by
  have hc : triArea2 C A B ≠ 0 := by rwa [← triArea2_cyclic C A B]
  rw [triArea2_mid_right _ _ _ h2, triArea2_cyclic C A, ← C07_circumcentre_cyclic C A B hc h2,
    (circumcentre_atOffset C A B hc h2).triArea2_eq h2]

/-- **Finite-volume area identity.**  The (doubled) kite of `A` in `(A, B, C)` is half of `Σ |edge|² · offset` over the
    two edges at `A`: summed over the triangles at a site, the cell area is `¼ Σ_edges |e| · (signed dual length)`. -/
theorem C07_kite_from_offsets (A B C : Pt K) (h1 : triArea2 A B C ≠ 0) (h2 : (2 : K) ≠ 0) :
    kite2 A B C = (ccOffset A B C * dist2 A B + ccOffset C A B * dist2 C A) / 2 := by
  rw [kite2, C07_kite_piece A B C h1 h2, C07_kite_piece' A B C h1 h2, add_div]

end field

section ordered
variable {K : Type} [Field K] [LinearOrder K] [IsStrictOrderedRing K]

/-- **Locally Delaunay ⇔ non-negative signed face.**  For two positively oriented triangles `(A, B, C)` and
    `(B, A, D)` on the edge `AB`, the signed dual length `s₁ + s₂` is non-negative exactly when `D` is not
    strictly inside the circumcircle of `(A, B, C)`. -/
theorem C07_delaunay_iff (A B C D : Pt K) (h1 : 0 < triArea2 A B C) (h2' : 0 < triArea2 B A D) :
    0 ≤ ccOffset A B C + ccOffset B A D ↔ inCircle A B C D ≤ 0 := by
  have hp : 0 < 2 * triArea2 A B C * triArea2 B A D := by positivity
  rw [← mul_nonneg_iff_of_pos_right hp, C07_offset_sum_incircle A B C D h1.ne' h2'.ne' two_ne_zero,
    neg_nonneg]

/-- Under the locally Delaunay hypothesis the coded unsigned length is the signed face:
    `dualInner2 = ℓ²` with `ℓ = (s₁ + s₂)·|AB| ≥ 0` (stated on squares: `ℓ ≥ 0` and `ℓ² = coded²` determine `ℓ`). -/
theorem C07_dual_inner_is_signed_face (A B C D : Pt K) (h1 : 0 < triArea2 A B C) (h2' : 0 < triArea2 B A D)
    (hd : inCircle A B C D ≤ 0) :
    0 ≤ ccOffset A B C + ccOffset B A D ∧
    dualInner2 A B C D = (ccOffset A B C + ccOffset B A D) ^ 2 * dist2 A B :=
  ⟨(C07_delaunay_iff A B C D h1 h2').2 hd, C07_dual_inner_sq A B C D h1.ne' h2'.ne' two_ne_zero⟩

/-- **Unencroached boundary edge ⇔ non-negative signed half face.**  For a positively oriented triangle the
    circumcentre lies on the inner side of the boundary edge `AB` (or on it) exactly when `C` is not strictly
    inside the diametral circle of `AB`. -/
theorem C07_unencroached_iff (A B C : Pt K) (h1 : 0 < triArea2 A B C) :
    0 ≤ ccOffset A B C ↔ dist2 A (mid A B) ≤ dist2 C (mid A B) := by
  have hp : 0 < 2 * triArea2 A B C := by positivity
  -- Thales: `|C − M|² − |A − M|² = (A − C)·(B − C)` for the midpoint `M` of `AB`
  have key : dist2 C (mid A B) - dist2 A (mid A B)
      = (A.1 - C.1) * (B.1 - C.1) + (A.2 - C.2) * (B.2 - C.2) := by
    simp only [dist2, mid]; ring
  rw [ccOffset, le_div_iff₀ hp, zero_mul, ← key, sub_nonneg]

end ordered

/-- A non-Delaunay pair over `ℚ`: `D` is strictly inside the circumcircle of `(A, B, C)`, both triangles are
    positively oriented, the signed face is negative, and the coded squared length is the square of that
    negative number — the unsigned length the code stores is *not* the signed Voronoi face there.  This is the
    configuration the hypothesis "locally Delaunay" of the property excludes. -/
theorem C07_nondelaunay_counterexample :
    let A : Pt ℚ := (0, 0); let B : Pt ℚ := (4, 0); let C : Pt ℚ := (2, 1); let D : Pt ℚ := (2, -1)
    0 < triArea2 A B C ∧ 0 < triArea2 B A D ∧ 0 < inCircle A B C D ∧
    ccOffset A B C + ccOffset B A D = -3/4 ∧ dualInner2 A B C D = 9 := by
  simp only [triArea2, inCircle, ccOffset, dualInner2, dist2, circumcentre]
  norm_num

/-- non-vacuity: a Delaunay pair (a unit square split along a diagonal is the degenerate case `inCircle = 0`;
    here a strictly Delaunay kite) -/
example :
    let A : Pt ℚ := (0, 0); let B : Pt ℚ := (2, 0); let C : Pt ℚ := (1, 2); let D : Pt ℚ := (1, -2)
    0 < triArea2 A B C ∧ 0 < triArea2 B A D ∧ inCircle A B C D ≤ 0 ∧
    0 ≤ ccOffset A B C + ccOffset B A D := by
  simp only [triArea2, inCircle, ccOffset]
  norm_num

end Tdgl.C07
