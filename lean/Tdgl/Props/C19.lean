/-
  C19 — ill-posed problems are rejected before anything is written.
  Model: Tdgl/Options.lean (`Opts.validate`, `currentsAccepted`, `guardedSolve`).
-/
import Mathlib.Algebra.Order.Field.Basic
import Mathlib.Tactic.Ring
import Mathlib.Tactic.Linarith
import Mathlib.Tactic.Common
import Tdgl.Options
import Tdgl.Lemmas.Folds

open Tdgl

namespace Tdgl.C19

section validate
variable {K : Type} [Field K] [LinearOrder K] [IsStrictOrderedRing K]

private theorem ite_some_eq_none {α : Type} (c : Prop) [Decidable c] (e : α) (x : Option α) :
    (if c then some e else x) = none ↔ ¬ c ∧ x = none := by
  split_ifs with h
  · simp [h]
  · simp [h]

/-- `validate` accepts exactly the consistent option sets (the whole decision logic, stated outright). -/
theorem C19_validate_ok_iff (o : Opts K) :
    o.validate = none ↔
      o.dtInit ≤ o.dtMax ∧ (∀ a, o.terminalPsiAbs = some a → 0 ≤ a ∧ a ≤ 1) ∧
      (0 < o.mult ∧ o.mult < 1) ∧ (0 < o.drag ∧ o.drag ≤ 1) ∧ 0 < o.stepSize ∧ 0 < o.tol ∧
      (o.gpu = true → o.haveCupy = true) ∧ o.solver ≠ .unknown ∧
      (o.solver = .umfpack → o.haveUmfpack = true) ∧ (o.solver = .pardiso → o.havePardiso = true) ∧
      (o.solver = .cupy → o.gpu = true) := by
  obtain ⟨dtInit, dtMax, tpa, mult, drag, stepSize, tol, gpu, solver, haveCupy, haveUmfpack, havePardiso⟩ := o
  unfold Opts.validate
  simp only [ite_some_eq_none, and_true]
  cases tpa <;> simp

theorem C19_reject_dt (o : Opts K) (h : o.dtMax < o.dtInit) : o.validate = some .dtInitGtMax := by
  unfold Opts.validate
  rw [if_pos h]

theorem C19_reject_terminal_psi (o : Opts K) (a : K) (h0 : o.dtInit ≤ o.dtMax)
    (ha : o.terminalPsiAbs = some a) (h : 1 < a ∨ a < 0) : o.validate = some .terminalPsi := by
  unfold Opts.validate
  rw [if_neg (not_lt.mpr h0), ha]
  have : (!(decide (0 ≤ a) && decide (a ≤ 1))) = true := by
    rcases h with h | h
    · simp [not_le.mpr h]
    · simp [not_le.mpr h]
  simp only [this, if_true]

/-- every inconsistent option set is rejected with *some* error -/
theorem C19_reject_any (o : Opts K)
    (h : o.dtMax < o.dtInit ∨ (∃ a, o.terminalPsiAbs = some a ∧ (a < 0 ∨ 1 < a)) ∨ o.mult ≤ 0 ∨ 1 ≤ o.mult ∨
      o.drag ≤ 0 ∨ 1 < o.drag ∨ o.stepSize ≤ 0 ∨ o.tol ≤ 0 ∨ (o.gpu = true ∧ o.haveCupy = false) ∨
      o.solver = .unknown ∨ (o.solver = .umfpack ∧ o.haveUmfpack = false) ∨
      (o.solver = .pardiso ∧ o.havePardiso = false) ∨ (o.solver = .cupy ∧ o.gpu = false)) :
    o.validate ≠ none := by
  intro hn
  rw [C19_validate_ok_iff] at hn
  obtain ⟨h1, h2, ⟨h3, h3'⟩, ⟨h4, h4'⟩, h5, h6, h7, h8, h9, h10, h11⟩ := hn
  rcases h with h | ⟨a, ha, h | h⟩ | h | h | h | h | h | h | ⟨h, h'⟩ | h | ⟨h, h'⟩ | ⟨h, h'⟩ | ⟨h, h'⟩
  · exact absurd h (not_lt.mpr h1)
  · exact absurd h (not_lt.mpr (h2 a ha).1)
  · exact absurd h (not_lt.mpr (h2 a ha).2)
  · exact absurd h (not_le.mpr h3)
  · exact absurd h (not_le.mpr h3')
  · exact absurd h (not_le.mpr h4)
  · exact absurd h (not_lt.mpr h4')
  · exact absurd h (not_le.mpr h5)
  · exact absurd h (not_le.mpr h6)
  · rw [h7 h] at h'; exact Bool.noConfusion h'
  · exact h8 h
  · rw [h9 h] at h'; exact Bool.noConfusion h'
  · rw [h10 h] at h'; exact Bool.noConfusion h'
  · rw [h11 h] at h'; exact Bool.noConfusion h'

end validate

section currents
variable {K : Type} [Field K] [LinearOrder K] [IsStrictOrderedRing K]

theorem C19_maxAbs_nonneg (l : List K) : 0 ≤ maxAbs l := le_foldl_pyMax absK l 0

/-- every member is bounded by the maximum -/
theorem C19_le_maxAbs (l : List K) (c : K) (h : c ∈ l) : absK c ≤ maxAbs l :=
  le_foldl_pyMax_of_mem absK h 0

/-- Balanced currents are accepted (exact arithmetic): `Σ I = 0`. -/
theorem C19_balanced_accepted (relTol : K) (hr : 0 ≤ relTol) (l : List K) (h : listSum l = 0) :
    currentsAccepted relTol l = true := by
  unfold currentsAccepted
  have h0 : absK (listSum l) = 0 := by rw [h, absK_eq_abs, abs_zero]
  have : ¬ (relTol * maxAbs l < absK (listSum l)) := by
    rw [h0]
    exact not_lt.mpr (mul_nonneg hr (C19_maxAbs_nonneg l))
  simp only [this, decide_false, Bool.not_false]

/-- Unbalanced currents are rejected down to any relative imbalance above the tolerance: if
    `|Σ I| ≥ δ · max|I|` with `δ > relTol` and some current is non-zero, the assignment is rejected.
    (With `relTol = 1e-9` this covers the property's "one part in 1e6".) -/
theorem C19_unbalanced_rejected (relTol δ : K) (hr : 0 ≤ relTol) (hδ : relTol < δ) (l : List K)
    (hpos : 0 < maxAbs l) (h : δ * maxAbs l ≤ absK (listSum l)) :
    currentsAccepted relTol l = false := by
  unfold currentsAccepted
  have : relTol * maxAbs l < absK (listSum l) :=
    lt_of_lt_of_le (mul_lt_mul_of_pos_right hδ hpos) h
  simp only [this, decide_true, Bool.not_true]

/-- **The balance test has no absolute scale**: multiplying every current by the same positive factor (another current unit,
    a device with another `K0`, currents of a few nA instead of a few µA) does not change the verdict.  (An absolute tolerance on
    the `J_scale`-scaled currents — a seeded change of round 12 — breaks exactly this.) -/
theorem C19_balance_scale_invariant (relTol c : K) (hc : 0 < c) (l : List K) :
    currentsAccepted relTol (l.map (c * ·)) = currentsAccepted relTol l := by
  unfold currentsAccepted
  rw [maxAbs_scale hc, listSum_scale, absK_mul_of_pos hc, mul_left_comm]
  simp only [mul_lt_mul_iff_right₀ hc]

end currents

section guard
variable {FS Res : Type}

private theorem find_none_of_all (checks : List (PreCheck × Bool)) (h : ∀ x ∈ checks, x.2 = true) :
    checks.find? (fun c => decide (c.2 = false)) = none := by
  rw [List.find?_eq_none]
  intro x hx
  simp [h x hx]

/-- A rejected problem leaves the file system exactly as it was: every check precedes the creation of
    the output file. -/
theorem C19_no_effect_on_reject (checks : List (PreCheck × Bool)) (run : FS → Res × FS) (fs : FS)
    (c : PreCheck × Bool) (hc : c ∈ checks) (hf : c.2 = false) :
    (guardedSolve checks run fs).2 = fs ∧ ∃ e, (guardedSolve checks run fs).1 = .error e := by
  unfold guardedSolve
  cases hfind : checks.find? (fun c => decide (c.2 = false)) with
  | some d => exact ⟨rfl, d.1, rfl⟩
  | none =>
    rw [List.find?_eq_none] at hfind
    have := hfind c hc
    simp [hf] at this

/-- The error reported is the first failing check in execution order. -/
theorem C19_first_failure_reported (pre post : List (PreCheck × Bool)) (c : PreCheck)
    (run : FS → Res × FS) (fs : FS) (hpre : ∀ x ∈ pre, x.2 = true) :
    (guardedSolve (pre ++ (c, false) :: post) run fs).1 = .error c := by
  unfold guardedSolve
  have : (pre ++ (c, false) :: post).find? (fun c => decide (c.2 = false)) = some (c, false) := by
    rw [List.find?_append, find_none_of_all pre hpre]
    simp
  rw [this]

/-- When every check passes the run happens. -/
theorem C19_all_pass_runs (checks : List (PreCheck × Bool)) (run : FS → Res × FS) (fs : FS)
    (h : ∀ x ∈ checks, x.2 = true) :
    guardedSolve checks run fs = (.ok (run fs).1, (run fs).2) := by
  unfold guardedSolve
  rw [find_none_of_all checks h]

end guard
end Tdgl.C19
