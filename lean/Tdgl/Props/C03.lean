/-
  C03 — finite-volume operators obey the discrete calculus identities.
  Property theorems about `Tdgl.Operators` for every mesh, over an arbitrary field
  (ordered where an inequality is stated).  `sumTo f n = Σ_{i<n} f i`.
-/
import Mathlib.Algebra.BigOperators.Group.Finset.Basic
import Mathlib.Algebra.BigOperators.Ring.Finset
import Mathlib.Algebra.BigOperators.Field
import Mathlib.Algebra.Order.BigOperators.Ring.Finset
import Mathlib.Algebra.Order.Field.Basic
import Mathlib.Logic.Relation
import Mathlib.Tactic.Ring
import Mathlib.Tactic.Linarith
import Mathlib.Tactic.FieldSimp
import Mathlib.Tactic.LinearCombination
import Tdgl.Lemmas.Sums
import Tdgl.Lemmas.RealInst
import Tdgl.Lemmas.Operators

open Finset Tdgl

namespace Tdgl.C03

section field
variable {K : Type} [Field K]

/-- The Laplacian is the divergence of the gradient (row by row, any vector, any mesh). -/
theorem C03_lap_eq_div_grad (m : FVMesh K) (g : ℕ → K) (r : ℕ) :
    lapRow m g r = divRow m (gradEdge m g) r :=
  lapRow_eq_divRow_gradEdge m g r

/-- The area-weighted sum of the divergence of any edge field vanishes. -/
theorem C03_div_sum_zero (m : FVMesh K) (hm : m.WF) (ha : ∀ r, r < m.n → m.area r ≠ 0) (F : ℕ → K) :
    sumTo (fun r => m.area r * divRow m F r) m.n = 0 := by
  simpa [sumTo_eq] using sum_area_mul_divRow hm ha (fun _ => 1) F

/-- The boundary-flux operator integrates to `Σ_b ℓ_b m_b`. -/
theorem C03_boundary_flux (m : FVMesh K) (hm : m.WF) (ha : ∀ r, r < m.n → m.area r ≠ 0)
    (h2 : (2 : K) ≠ 0) (mb : ℕ → K) :
    sumTo (fun r => m.area r * neuRow m mb r) m.n
      = sumTo (fun b => m.len (m.bidx b) * mb b) m.nb := by
  unfold neuRow
  simp_rw [sumTo_eq]
  rw [sum_mul_scatter (fun b hb => hm.e0_lt _ (hm.bRange b hb)) (fun b hb => hm.inRange _ (hm.bRange b hb))]
  refine Finset.sum_congr rfl fun b hb => ?_
  have hb := hm.bRange b (mem_range.1 hb)
  have h0 := ha _ (hm.e0_lt _ hb)
  have h1 := ha _ (hm.inRange _ hb)
  field_simp
  ring

/-- Energy (Green) identity: `Σ_r a_r f_r (L g)_r = − Σ_e w_e (f_{e1} − f_{e0}) (g_{e1} − g_{e0})`. -/
theorem C03_energy_identity (m : FVMesh K) (hm : m.WF) (ha : ∀ r, r < m.n → m.area r ≠ 0)
    (f g : ℕ → K) :
    sumTo (fun r => m.area r * f r * lapRow m g r) m.n
      = - sumTo (fun e => m.w e * (f (m.e1 e) - f (m.e0 e)) * (g (m.e1 e) - g (m.e0 e))) m.E := by
  simp_rw [sumTo_eq, lapRow_eq_divRow_gradEdge]
  rw [sum_area_mul_divRow hm ha]
  congr 1
  refine Finset.sum_congr rfl fun e _ => ?_
  rw [gradEdge_eq, FVMesh.w]
  ring

/-- The area-weighted scalar Laplacian is symmetric. -/
theorem C03_weighted_lap_symm (m : FVMesh K) (hm : m.WF) (ha : ∀ r, r < m.n → m.area r ≠ 0)
    (f g : ℕ → K) :
    sumTo (fun r => m.area r * f r * lapRow m g r) m.n
      = sumTo (fun r => m.area r * g r * lapRow m f r) m.n := by
  rw [C03_energy_identity m hm ha f g, C03_energy_identity m hm ha g f, sumTo_eq, sumTo_eq]
  congr 1
  refine Finset.sum_congr rfl fun e _ => ?_
  ring

/-- Constants are annihilated (rows sum to zero). -/
theorem C03_lap_const (m : FVMesh K) (c : K) (r : ℕ) : lapRow m (fun _ => c) r = 0 :=
  lapRow_eq_zero m (fun _ _ => rfl) r

/-- The gradient is exact on linear functions: for `g = α x + β y + γ₀`,
    `(G g)_e = (α (x_{e1} − x_{e0}) + β (y_{e1} − y_{e0})) / ℓ_e`. -/
theorem C03_grad_linear_exact (m : FVMesh K) (x y : ℕ → K) (α β γ₀ : K) (e : ℕ) :
    gradEdge m (fun r => α * x r + β * y r + γ₀) e
      = (α * (x (m.e1 e) - x (m.e0 e)) + β * (y (m.e1 e) - y (m.e0 e))) / m.len e := by
  unfold gradEdge
  ring

end field

section ordered
variable {K : Type} [Field K] [LinearOrder K] [IsStrictOrderedRing K]

/-- The area-weighted scalar Laplacian is negative semi-definite for non-negative edge weights. -/
theorem C03_neg_semidef (m : FVMesh K) (hm : m.WF) (ha : ∀ r, r < m.n → m.area r ≠ 0)
    (hw : ∀ e, e < m.E → 0 ≤ m.w e) (g : ℕ → K) :
    sumTo (fun r => m.area r * g r * lapRow m g r) m.n ≤ 0 := by
  rw [C03_energy_identity m hm ha g g, sumTo_eq, neg_nonpos]
  refine Finset.sum_nonneg fun e he => ?_
  rw [mul_assoc]
  exact mul_nonneg (hw e (mem_range.1 he)) (mul_self_nonneg _)

/-- adjacency through a mesh edge -/
def Adj (m : FVMesh K) (i j : ℕ) : Prop :=
  ∃ e, e < m.E ∧ ((m.e0 e = i ∧ m.e1 e = j) ∨ (m.e0 e = j ∧ m.e1 e = i))

/-- On a connected mesh with positive weights the kernel of the Laplacian is exactly the constants. -/
theorem C03_kernel (m : FVMesh K) (hm : m.WF) (ha : ∀ r, r < m.n → m.area r ≠ 0)
    (hw : ∀ e, e < m.E → 0 < m.w e)
    (hconn : ∀ i j, i < m.n → j < m.n → Relation.ReflTransGen (Adj m) i j) (g : ℕ → K) :
    (∀ r, r < m.n → lapRow m g r = 0) ↔ (∀ i j, i < m.n → j < m.n → g i = g j) := by
  constructor
  · intro h
    have hsum : sumTo (fun r => m.area r * g r * lapRow m g r) m.n = 0 := by
      rw [sumTo_eq]
      refine Finset.sum_eq_zero fun r hr => ?_
      rw [h r (mem_range.1 hr), mul_zero]
    rw [C03_energy_identity m hm ha g g, neg_eq_zero, sumTo_eq] at hsum
    have hnn : ∀ e ∈ range m.E,
        0 ≤ m.w e * (g (m.e1 e) - g (m.e0 e)) * (g (m.e1 e) - g (m.e0 e)) := by
      intro e he
      rw [mul_assoc]
      exact mul_nonneg (le_of_lt (hw e (mem_range.1 he))) (mul_self_nonneg _)
    have hedge : ∀ e, e < m.E → g (m.e1 e) = g (m.e0 e) := by
      intro e he
      have h0 := (Finset.sum_eq_zero_iff_of_nonneg hnn).1 hsum e (mem_range.2 he)
      rw [mul_assoc] at h0
      rcases mul_eq_zero.1 h0 with h1 | h1
      · exact absurd h1 (ne_of_gt (hw e he))
      · exact sub_eq_zero.1 (mul_self_eq_zero.1 h1)
    have hadj : ∀ i j, Adj m i j → g i = g j := by
      rintro i j ⟨e, he, ⟨h0, h1⟩ | ⟨h0, h1⟩⟩
      · rw [← h0, ← h1]; exact (hedge e he).symm
      · rw [← h0, ← h1]; exact hedge e he
    have hpath : ∀ i j, Relation.ReflTransGen (Adj m) i j → g i = g j := by
      intro i j hc
      induction hc with
      | refl => rfl
      | tail _ hbc ih => exact ih.trans (hadj _ _ hbc)
    intro i j hi hj
    exact hpath i j (hconn i j hi hj)
  · intro h r _
    exact lapRow_eq_zero m (fun e he => h _ _ (hm.inRange e he) (hm.e0_lt e he)) r

end ordered

section covariant

/-- complex Green identity for the covariant Laplacian (image in `ℂ`) -/
private theorem cov_energy (m : FVMesh ℝ) (hm : m.WF) (ha : ∀ r, r < m.n → m.area r ≠ 0)
    (U f g : ℕ → Cx ℝ) :
    toC (csumTo (fun r =>
        Cx.smul (m.area r) (Cx.mul (Cx.conj (f r)) (clapRow m (fun _ => false) U g r))) m.n)
      = ∑ e ∈ range m.E, (m.w e : ℂ) *
          ((starRingEnd ℂ) (toC (f (m.e0 e))) * toC (U e) * toC (g (m.e1 e))
            + (starRingEnd ℂ) (toC (f (m.e1 e))) * (starRingEnd ℂ) (toC (U e)) * toC (g (m.e0 e))
            - (starRingEnd ℂ) (toC (f (m.e0 e))) * toC (g (m.e0 e))
            - (starRingEnd ℂ) (toC (f (m.e1 e))) * toC (g (m.e1 e))) := by
  simp only [toC_csumTo, toC_smul, toC_mul, toC_conj, toC_clapRow_free, ← mul_assoc]
  rw [sum_mul_scatter hm.e0_lt hm.inRange]
  refine Finset.sum_congr rfl fun e he => ?_
  have he := mem_range.1 he
  have h0 : (m.area (m.e0 e) : ℂ) ≠ 0 := Complex.ofReal_ne_zero.2 (ha _ (hm.e0_lt e he))
  have h1 : (m.area (m.e1 e) : ℂ) ≠ 0 := Complex.ofReal_ne_zero.2 (ha _ (hm.inRange e he))
  push_cast
  field_simp
  ring

/-- The covariant Laplacian (no pinned rows) is Hermitian in the area-weighted inner product,
    for any link variables: `Σ_r a_r conj(f_r) (L^U g)_r = conj( Σ_r a_r conj(g_r) (L^U f)_r )`. -/
theorem C03_cov_hermitian (m : FVMesh ℝ) (hm : m.WF) (ha : ∀ r, r < m.n → m.area r ≠ 0)
    (U f g : ℕ → Cx ℝ) :
    csumTo (fun r => Cx.smul (m.area r) (Cx.mul (Cx.conj (f r)) (clapRow m (fun _ => false) U g r))) m.n
      = Cx.conj (csumTo (fun r =>
          Cx.smul (m.area r) (Cx.mul (Cx.conj (g r)) (clapRow m (fun _ => false) U f r))) m.n) := by
  apply toC_injective
  rw [toC_conj, cov_energy m hm ha U f g, cov_energy m hm ha U g f, map_sum]
  refine Finset.sum_congr rfl fun e _ => ?_
  simp only [map_mul, map_add, map_sub, Complex.conj_conj, Complex.conj_ofReal]
  ring

end covariant

end Tdgl.C03
