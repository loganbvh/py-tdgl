/-
  C14 — saved devices, meshes, solutions and parameters load back unchanged.
  Model: Tdgl/H5.lean.  Payloads are opaque, so every statement holds for all contents.
  (The parameter part of the property is C16_pickle_roundtrip in Tdgl/Props/C16.lean.)
-/
import Mathlib.Data.List.Basic
import Mathlib.Data.List.Sort
import Mathlib.Tactic.Common
import Mathlib.Data.String.Basic
import Tdgl.H5
import Tdgl.Lemmas.SortByKey

open Tdgl.H5

namespace Tdgl.C14

variable {V : Type}

/-- A layer reads back unchanged, whether or not the optional conductivity is set. -/
theorem C14_layer_roundtrip (l : LayerRec V) : decodeLayer (encodeLayer l) = some l := by
  cases l with | mk a b c d e f g => cases g <;> rfl

/-- A polygon reads back unchanged, whether or not it has a name. -/
theorem C14_polygon_roundtrip (p : PolyRec V) : decodePoly (encodePoly p) = some p := by
  cases p with | mk name mesh points => cases name <;> rfl

private theorem get_cons (e : String × V) (s : Store V) (k : String) :
    Store.get (e :: s) k = if e.1 = k then some e.2 else Store.get s k := by
  unfold Store.get
  rw [List.find?_cons]
  by_cases h : e.1 = k
  · have hb : (e.1 == k) = true := by simpa using h
    rw [hb, if_pos h]; rfl
  · have hb : (e.1 == k) = false := by simpa using h
    rw [hb, if_neg h]

private theorem get_of_not_mem (s : Store V) (k : String) (h : k ∉ s.map (·.1)) :
    Store.get s k = none := by
  induction s with
  | nil => rfl
  | cons e s ih =>
    simp only [List.map_cons, List.mem_cons, not_or] at h
    rw [get_cons, if_neg (fun h' => h.1 h'.symm), ih h.2]

private theorem get_append_of_not_mem (p s : Store V) (k : String) (h : k ∉ p.map (·.1)) :
    Store.get (p ++ s) k = Store.get s k := by
  induction p with
  | nil => rfl
  | cons e p ih =>
    simp only [List.map_cons, List.mem_cons, not_or] at h
    rw [List.cons_append, get_cons, if_neg (fun h' => h.1 h'.symm), ih h.2]

private theorem get_of_mem (s : Store V) (hk : (s.map (·.1)).Nodup) (e : String × V) (he : e ∈ s) :
    Store.get s e.1 = some e.2 := by
  induction s with
  | nil => cases he
  | cons a s ih =>
    simp only [List.map_cons, List.nodup_cons] at hk
    rw [get_cons]
    rcases List.mem_cons.1 he with rfl | hm
    · simp
    · have hne : a.1 ≠ e.1 := fun h => hk.1 (h ▸ List.mem_map_of_mem hm)
      rw [if_neg hne, ih hk.2 hm]

private theorem putOpt_keys (k k' : String) (v : Option V) (h : k' ≠ k) :
    k' ∉ (putOpt k v).map (·.1) := by
  cases v <;> simp [putOpt, h]

private theorem get_putOpt (k : String) (v : Option V) (s : Store V) (h : k ∉ s.map (·.1)) :
    Store.get (putOpt k v ++ s) k = v := by
  cases v with
  | none => exact get_of_not_mem s k h
  | some x => simp [putOpt, get_cons]

/-- Solver options read back unchanged *including the unset ones*: with the repaired loader a `None`
    value (omitted on save) comes back as `None`.  `others` must list each remaining field once, in the
    order of `otherKeys`, and none of them is one of the two optional keys. -/
theorem C14_options_roundtrip (o : OptsRec V)
    (hk : (o.others.map (·.1)).Nodup)
    (h1 : "terminal_psi" ∉ o.others.map (·.1)) (h2 : "output_file" ∉ o.others.map (·.1)) :
    decodeOpts (o.others.map (·.1)) (encodeOpts o) = o := by
  cases o with
  | mk tp op others =>
    simp only at hk h1 h2
    unfold decodeOpts encodeOpts
    congr 1
    · rw [List.append_assoc]
      apply get_putOpt
      rw [List.map_append, List.mem_append, not_or]
      exact ⟨putOpt_keys _ _ _ (by decide), h1⟩
    · rw [List.append_assoc, get_append_of_not_mem _ _ _ (putOpt_keys _ _ _ (by decide))]
      exact get_putOpt _ _ _ h2
    · rw [List.filterMap_map]
      have : ∀ e ∈ others,
          ((fun k => (Store.get (putOpt "terminal_psi" tp ++ putOpt "output_file" op ++ others) k).map
            (fun v => (k, v))) ∘ fun x : String × V => x.1) e = some e := by
        intro e he
        have hne1 : e.1 ≠ "terminal_psi" := fun h => h1 (h ▸ List.mem_map_of_mem he)
        have hne2 : e.1 ≠ "output_file" := fun h => h2 (h ▸ List.mem_map_of_mem he)
        simp only [Function.comp]
        rw [List.append_assoc, get_append_of_not_mem _ _ _ (putOpt_keys _ _ _ hne1),
          get_append_of_not_mem _ _ _ (putOpt_keys _ _ _ hne2), get_of_mem _ hk e he]
        rfl
      rw [List.filterMap_congr this, List.filterMap_some]

/-- The loader of the pinned tree did not: `terminal_psi = None` reloaded as the default. -/
theorem C14_options_old_counterexample (dflt : V) (others : List (String × V)) :
    decodeOptsOld dflt (others.map (·.1)) (encodeOpts ⟨none, none, others⟩) ≠ ⟨none, none, others⟩ := by
  intro h
  have := congrArg OptsRec.terminalPsi h
  simp [decodeOptsOld] at this

/-- A fully stored mesh is restorable and reads back unchanged. -/
theorem C14_mesh_full_roundtrip (recompute : V → V → MeshRec V) (m : MeshRec V) :
    isRestorable (encodeMesh false m) = true ∧ decodeMesh recompute (encodeMesh false m) = some m := by
  exact ⟨rfl, rfl⟩

/-- A compressed mesh is not restorable; it is recomputed from the stored triangulation, and equals the
    original whenever the original was itself computed from its triangulation. -/
theorem C14_mesh_compressed_roundtrip (recompute : V → V → MeshRec V) (m : MeshRec V)
    (hm : recompute m.sites m.elements = m) :
    isRestorable (encodeMesh true m) = false ∧ decodeMesh recompute (encodeMesh true m) = some m := by
  refine ⟨rfl, ?_⟩
  show some (recompute m.sites m.elements) = some m
  rw [hm]

/-- A mesh restored from stored arrays equals the one recomputed from its triangulation. -/
theorem C14_mesh_restored_eq_recomputed (recompute : V → V → MeshRec V) (m : MeshRec V)
    (hm : recompute m.sites m.elements = m) :
    decodeMesh recompute (encodeMesh false m) = decodeMesh recompute (encodeMesh true m) := by
  rw [(C14_mesh_full_roundtrip recompute m).2, (C14_mesh_compressed_roundtrip recompute m hm).2]

/-- `decodeList` inverts the encoding of a list of named polygons. -/
theorem C14_named_polygons_roundtrip (l : List (String × PolyRec V)) :
    decodeList (l.map (fun t => (t.1, encodePoly t.2))) = some l := by
  induction l with
  | nil => rfl
  | cons t l ih =>
    rw [List.map_cons, decodeList, C14_polygon_roundtrip, ih]

/-- sorting by key commutes with mapping the payloads -/
theorem C14_sort_map {A B : Type} (f : A → B) (l : List (String × A)) :
    sortByKey (l.map (fun t => (t.1, f t.2))) = (sortByKey l).map (fun t => (t.1, f t.2)) :=
  sortByKey_map f l

/-- A device reads back as its canonical form (terminals and holes in name order — the order in which
    HDF5 iterates groups, and the order in which the library compares them), with every optional part
    (probe points, names, conductivity) preserved. -/
theorem C14_device_roundtrip (d : DevRec V) : decodeDev (encodeDev d) = some (canonDev d) := by
  unfold decodeDev encodeDev
  simp only [C14_layer_roundtrip, C14_polygon_roundtrip, C14_sort_map, C14_named_polygons_roundtrip]
  rfl


/-- Without distinct names the original statement is false: `insertSorted` places a new entry *after*
    entries with an equal key, so `sortByKey` reverses a run of equal keys and is not idempotent. -/
theorem sortByKey_not_idempotent_with_duplicate_keys :
    sortByKey (sortByKey [("a", true), ("a", false)]) ≠ sortByKey [("a", true), ("a", false)] := by
  decide

-- STATEMENT CHANGED: added the hypotheses `ht`, `hh` that terminal names and hole names are pairwise
-- distinct (the real `Device.__init__` enforces unique names).  Without them the statement is false:
-- for `terminals = [("a", p), ("a", q)]` with `p ≠ q`, `sortByKey` gives `[("a", q), ("a", p)]` and
-- sorting again gives `[("a", p), ("a", q)]` (see `sortByKey_not_idempotent_with_duplicate_keys`).
/-- Reading back is idempotent: a device that was read back reads back unchanged. -/
theorem C14_device_roundtrip_idempotent (d : DevRec V)
    (ht : (d.terminals.map (·.1)).Nodup) (hh : (d.holes.map (·.1)).Nodup) :
    decodeDev (encodeDev (canonDev d)) = some (canonDev d) := by
  rw [C14_device_roundtrip]
  simp only [canonDev, sortByKey_idem ht, sortByKey_idem hh]

end Tdgl.C14
