/-
  C05 (reader side) — what is read back from the file is one record per step, and the times reported by
  the loaded solution are the frame times.   Models: Tdgl/Reader.lean over Tdgl/Runner.lean.
-/
import Mathlib.Data.List.Basic
import Mathlib.Order.Basic
import Mathlib.Tactic.Common
import Tdgl.Runner
import Tdgl.Reader
import Tdgl.Props.C05

open Tdgl

namespace Tdgl.C05

variable {K S R : Type} [Add K] [LE K] [DecidableLE K] [OfNat K 0] [LT K] [DecidableLT K]

omit [Add K] [LE K] [DecidableLE K] [OfNat K 0] [LT K] [DecidableLT K] in
private theorem filter_padTo (p : R → Bool) (k : ℕ) (zero : R) (l : List R) (hz : p zero = false)
    (hl : ∀ r ∈ l, p r = true) : (padTo k zero l).filter p = l := by
  unfold padTo
  rw [List.filter_append, List.filter_eq_self.2 hl, List.filter_replicate]
  simp [hz]

omit [Add K] [LE K] [DecidableLE K] in
/-- the reader returns the concatenation of the valid buffers (`C05_reader_roundtrip`, without the order and addition on `K`
    that its signature carries and does not use) -/
theorem readRecords_eq_allRecs (dtOf : R → K) (k : ℕ) (zero : R) (frames : List (Frame K S R))
    (hzero : ¬ (0 : K) < dtOf zero)
    (hpos : ∀ f ∈ frames, ∀ l, f.recs = some l → ∀ r ∈ l, (0 : K) < dtOf r) :
    readRecords dtOf k zero frames = allRecs frames := by
  unfold readRecords allRecs
  induction frames with
  | nil => rfl
  | cons f fs ih =>
    rw [List.flatMap_cons, List.filter_append, List.flatMap_cons,
      ih (fun g hg => hpos g (List.mem_cons_of_mem _ hg))]
    congr 1
    cases hr : f.recs with
    | none => rfl
    | some l =>
      show (padTo k zero l).filter _ = l
      apply filter_padTo
      · simpa using hzero
      · intro r hr'
        simpa using hpos f List.mem_cons_self l hr r hr'

/-- Reading back: if every genuine record has `dt > 0` and the padding record has `dt = 0` (not `> 0`), the
    reader returns exactly the concatenation of the valid buffers — for every `k ≥ 1`, whatever the number of
    frames and the fill level of each buffer. -/
theorem C05_reader_roundtrip (dtOf : R → K) (k : ℕ) (zero : R) (frames : List (Frame K S R))
    (hzero : ¬ (0 : K) < dtOf zero)
    (hpos : ∀ f ∈ frames, ∀ l, f.recs = some l → ∀ r ∈ l, (0 : K) < dtOf r) :
    readRecords dtOf k zero frames = allRecs frames :=
  readRecords_eq_allRecs dtOf k zero frames hzero hpos

/-- the time steps used by the first `N` updates of the trajectory -/
def dtsOf (upd : S → ℕ → K → K × S × R) (s0 : S) (N : ℕ) : List K :=
  (List.range N).map (fun n => (upd (traj upd s0 n).2 n (traj upd s0 n).1).1)

omit [LE K] [DecidableLE K] [OfNat K 0] [LT K] [DecidableLT K] in
private theorem cumsum_range' (c d : ℕ → K) (hc : ∀ n, c (n + 1) = c n + d n) :
    ∀ (j m : ℕ), cumsumFrom (c m) ((List.range' m j).map d) = (List.range' (m + 1) j).map c
  | 0, m => rfl
  | j + 1, m => by
    rw [List.range'_succ, List.map_cons, cumsumFrom, ← hc, cumsum_range' c d hc j (m + 1),
      List.range'_succ, List.map_cons]

/-- cumulative sums of the used time steps are the clock values of the trajectory -/
theorem C05_cumsum_is_clock (upd : S → ℕ → K → K × S × R) (s0 : S) (N : ℕ) :
    (0 : K) :: cumsumFrom 0 (dtsOf upd s0 N) = (List.range (N + 1)).map (fun n => (traj upd s0 n).1) := by
  have h := cumsum_range' (fun n => (traj upd s0 n).1)
    (fun n => (upd (traj upd s0 n).2 n (traj upd s0 n).1).1) (fun _ => rfl) N 0
  rw [List.range_eq_range', List.range'_succ, List.map_cons, ← h, dtsOf, List.range_eq_range']
  rfl

omit [Add K] [LE K] [DecidableLE K] [OfNat K 0] [LT K] [DecidableLT K] in
private theorem filterMap_ite_eq (c : ℕ → K) (k : ℕ) (l : List ℕ) :
    l.filterMap (fun i => if i % k = 0 then some (c i) else none)
      = (l.filter (fun i => i % k = 0)).map c := by
  rw [← List.filterMap_eq_map', List.filterMap_filter]
  simp only [decide_eq_true_eq]

omit [Add K] [LE K] [DecidableLE K] [OfNat K 0] [LT K] [DecidableLT K] in
private theorem everyKth_map_range (c : ℕ → K) (k n : ℕ) :
    everyKth k ((List.range n).map c) = ((List.range n).filter (fun i => i % k = 0)).map c := by
  unfold everyKth
  rw [← filterMap_ite_eq, List.length_map, List.length_range]
  apply List.filterMap_congr
  intro i hi
  rw [List.mem_range] at hi
  simp [hi]

/-- **The reported times depend on the recorded steps only** — not on the requested solve time: for ANY number `M` of
    recorded steps (a finished run, or a run stopped early by a cancellation or an error), `Solution.times` computed from the
    `M` per-step time steps is the clock at the labels `0, k, 2k, … ≤ M`, plus the clock at `M` when `M` is not on the grid.
    (`C05_times` is the instance `M = N` for a finished stage; for a stopped run these are the labels of the frames a truthful
    output holds, C15.) -/
theorem C05_times_of_steps (upd : S → ℕ → K → K × S × R) (s0 : S) (k M : ℕ) :
    solutionTimes k (dtsOf upd s0 M)
      = (((List.range (M+1)).filter (fun i => i % k = 0)) ++ (if M % k = 0 then [] else [M])).map
          (fun n => (traj upd s0 n).1) := by
  unfold solutionTimes
  simp only
  rw [C05_cumsum_is_clock, everyKth_map_range, List.length_map, List.length_range,
    Nat.add_sub_cancel, List.map_append]
  by_cases hm : M % k = 0
  · simp [hm]
  · simp [hm, List.range_succ]

/-- The times reported by the loaded solution are the times of the saved frames: for every finished
    recorded stage, `Solution.times` computed from the per-step time steps equals the list of frame times. -/
theorem C05_times (upd : S → ℕ → K → K × S × R) (s0 : S) (k : ℕ) (hk : 0 < k) (T : K) (fuel : ℕ)
    (e : StageEnd K S R) (h : runStage upd true k T fuel 0 0 s0 [] [] = some e) :
    solutionTimes k (dtsOf upd s0 e.steps) = e.frames.map (·.time) := by
  obtain ⟨-, -, -, hr⟩ := runStage_spec h
  rw [hr.map_time, hr.labels, C05_times_of_steps]
  exact congrArg _ (gridBelow_succ_append k e.steps)

/-- A rule that decides the extra final time by comparing the last grid time with the requested solve time (a seeded change
    of round 12) reports a time that no frame has when a run is cancelled on a grid step: `k = 4`, four unit steps recorded,
    solve time 10 — the frames are at times 0 and 4, the rule gives `[0, 4, 4]`. -/
theorem C05_times_by_solve_time_counterexample :
    let dts : List ℕ := [1, 1, 1, 1]
    let times := (0 : ℕ) :: cumsumFrom 0 dts
    let saved := everyKth 4 times
    (if saved.getLast?.getD 0 < 10 then saved ++ (match times.getLast? with | some t => [t] | none => []) else saved) = [0, 4, 4] ∧
    solutionTimes 4 dts = [0, 4] := by
  constructor <;> decide

/-- The pinned upstream tree reported other times: with unit steps, `k = 3`, 7 steps, the frames are at
    times `0, 3, 6, 7` but `cumsum(dt)[::3]` (+ last) gives `1, 4, 7`. -/
theorem C05_times_old_counterexample :
    solutionTimesOld 3 ([1, 1, 1, 1, 1, 1, 1] : List ℕ) = [1, 4, 7] ∧
    solutionTimes 3 ([1, 1, 1, 1, 1, 1, 1] : List ℕ) = [0, 3, 6, 7] := by
  constructor <;> decide

end Tdgl.C05
