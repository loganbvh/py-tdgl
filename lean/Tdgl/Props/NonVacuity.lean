/-
  Non-vacuity witnesses.

  A property theorem whose hypotheses no object satisfies would be vacuously true.  For the theorems in
  `Tdgl/Props/C*.lean` that carry hypotheses this file exhibits concrete, non-trivial objects (over `ℚ`,
  `ℕ`, `String`) that satisfy the hypotheses jointly, and — where cheap — applies the property theorem
  to the witness.
-/
import Mathlib.Tactic.NormNum
import Mathlib.Tactic.IntervalCases
import Mathlib.Tactic.FinCases
import Mathlib.Data.Rat.Defs
import Mathlib.Algebra.Order.Field.Rat
import Mathlib.Logic.Relation
import Tdgl.Props.C01
import Tdgl.Props.C02
import Tdgl.Props.C03
import Tdgl.Props.C04
import Tdgl.Props.C05
import Tdgl.Props.C06
import Tdgl.Props.C07
import Tdgl.Props.C08
import Tdgl.Props.C09
import Tdgl.Props.C10
import Tdgl.Props.C11
import Tdgl.Props.C12
import Tdgl.Props.C13
import Tdgl.Props.C14
import Tdgl.Props.C15
import Tdgl.Props.C16
import Tdgl.Props.C17
import Tdgl.Props.C18
import Tdgl.Props.C19
import Tdgl.Props.C20

open Tdgl

namespace Tdgl.NonVacuity

/-! ## 1. A concrete finite-volume mesh over `ℚ` (C01, C03, C10)

Four sites, two triangles `(0,1,2)` and `(1,2,3)` sharing the edge `(1,2)`:

```
      1
    / | \
   0  |  3
    \ | /
      2
```
edges `0:(0,1) 1:(0,2) 2:(1,2) 3:(1,3) 4:(2,3)`; the boundary edges are the four outer ones. -/

def e0f : ℕ → ℕ
  | 0 => 0 | 1 => 0 | 2 => 1 | 3 => 1 | _ => 2
def e1f : ℕ → ℕ
  | 0 => 1 | 1 => 2 | 2 => 2 | 3 => 3 | _ => 3
/-- edge lengths (not all equal) -/
def lenf : ℕ → ℚ
  | 0 => 1 | 1 => 2 | 2 => 7/5 | 3 => 2 | _ => 1
/-- dual (Voronoi) edge lengths -/
def dualf : ℕ → ℚ
  | 0 => 1/2 | 1 => 1 | 2 => 3/10 | 3 => 1 | _ => 1/2
/-- cell areas -/
def areaf : ℕ → ℚ
  | 0 => 1/4 | 1 => 1/2 | 2 => 3/5 | _ => 1/3
/-- boundary edges, by edge index: all but the shared edge `2` -/
def bidxf : ℕ → ℕ
  | 0 => 0 | 1 => 1 | 2 => 3 | _ => 4

def mesh4 : FVMesh ℚ :=
  { n := 4, E := 5, e0 := e0f, e1 := e1f, len := lenf, dual := dualf, area := areaf,
    nb := 4, bidx := bidxf }

theorem mesh4_wf : mesh4.WF where
  lt := by show ∀ e, e < 5 → e0f e < e1f e; decide
  inRange := by show ∀ e, e < 5 → e1f e < 4; decide
  distinct := by
    have h : ∀ e, e < 5 → ∀ e', e' < 5 → e0f e = e0f e' → e1f e = e1f e' → e = e' := by decide
    exact fun e e' he he' => h e he e' he'
  bRange := by show ∀ b, b < 4 → bidxf b < 5; decide
  bDistinct := by
    have h : ∀ b, b < 4 → ∀ b', b' < 4 → bidxf b = bidxf b' → b = b' := by decide
    exact fun b b' hb hb' => h b hb b' hb'

theorem mesh4_area : ∀ r, r < mesh4.n → mesh4.area r ≠ 0 := by decide +kernel

theorem mesh4_w_pos : ∀ e, e < mesh4.E → 0 < mesh4.w e := by decide +kernel

theorem mesh4_adj_symm {i j : ℕ} : C03.Adj mesh4 i j → C03.Adj mesh4 j i := by
  rintro ⟨e, he, h⟩
  exact ⟨e, he, h.symm⟩

private theorem rtg_symm {i j : ℕ} (h : Relation.ReflTransGen (C03.Adj mesh4) i j) :
    Relation.ReflTransGen (C03.Adj mesh4) j i := by
  induction h with
  | refl => exact Relation.ReflTransGen.refl
  | tail _ hbc ih => exact ih.head (mesh4_adj_symm hbc)

private theorem adj01 : C03.Adj mesh4 0 1 := ⟨0, by decide, Or.inl ⟨rfl, rfl⟩⟩
private theorem adj02 : C03.Adj mesh4 0 2 := ⟨1, by decide, Or.inl ⟨rfl, rfl⟩⟩
private theorem adj13 : C03.Adj mesh4 1 3 := ⟨3, by decide, Or.inl ⟨rfl, rfl⟩⟩

private theorem reach0 : ∀ i, i < 4 → Relation.ReflTransGen (C03.Adj mesh4) 0 i := by
  intro i hi
  interval_cases i
  · exact Relation.ReflTransGen.refl
  · exact Relation.ReflTransGen.single adj01
  · exact Relation.ReflTransGen.single adj02
  · exact (Relation.ReflTransGen.single adj01).tail adj13

/-- the mesh is connected (hypothesis `hconn` of `C03_kernel`) -/
theorem mesh4_conn :
    ∀ i j, i < mesh4.n → j < mesh4.n → Relation.ReflTransGen (C03.Adj mesh4) i j := by
  intro i j hi hj
  exact (rtg_symm (reach0 i hi)).trans (reach0 j hj)

/-! ### the C03 theorems applied to `mesh4` -/

example (F : ℕ → ℚ) : sumTo (fun r => mesh4.area r * divRow mesh4 F r) mesh4.n = 0 :=
  C03.C03_div_sum_zero mesh4 mesh4_wf mesh4_area F

example (f g : ℕ → ℚ) :
    sumTo (fun r => mesh4.area r * f r * lapRow mesh4 g r) mesh4.n
      = - sumTo (fun e => mesh4.w e * (f (mesh4.e1 e) - f (mesh4.e0 e)) * (g (mesh4.e1 e) - g (mesh4.e0 e)))
          mesh4.E :=
  C03.C03_energy_identity mesh4 mesh4_wf mesh4_area f g

example (mb : ℕ → ℚ) :
    sumTo (fun r => mesh4.area r * neuRow mesh4 mb r) mesh4.n
      = sumTo (fun b => mesh4.len (mesh4.bidx b) * mb b) mesh4.nb :=
  C03.C03_boundary_flux mesh4 mesh4_wf mesh4_area (by norm_num) mb

example (g : ℕ → ℚ) : sumTo (fun r => mesh4.area r * g r * lapRow mesh4 g r) mesh4.n ≤ 0 :=
  C03.C03_neg_semidef mesh4 mesh4_wf mesh4_area (fun e he => (mesh4_w_pos e he).le) g

/-- the kernel characterisation, as an iff on the concrete mesh -/
example (g : ℕ → ℚ) :
    (∀ r, r < 4 → lapRow mesh4 g r = 0) ↔ (∀ i j, i < 4 → j < 4 → g i = g j) :=
  C03.C03_kernel mesh4 mesh4_wf mesh4_area mesh4_w_pos mesh4_conn g

/-- a concrete, non-constant site field; its Laplacian is not zero (so the iff above is not
    trivially true on both sides) -/
def mu4 : ℕ → ℚ
  | 0 => 1 | 3 => -1 | _ => 0

example : lapRow mesh4 mu4 0 = -4 := by decide +kernel

/-! ### C01: a non-trivial solution of the Poisson equation on `mesh4`

`μ = (1, 0, 0, −1)`, no supercurrent, static vector potential, and boundary current densities
`μ_b = (1, 1/2, −1/2, −1)` on the boundary edges `(0,1), (0,2), (1,3), (2,3)`: current enters around
site 0 and leaves around site 3. -/

def mb4 : ℕ → ℚ
  | 0 => 1 | 1 => 1/2 | 2 => -1/2 | _ => -1

theorem poisson4 : ∀ r, r < mesh4.n →
    lapRow mesh4 mu4 r = poissonRhs mesh4 (fun _ => 0) (fun _ => 0) mb4 r := by
  decide +kernel

example (r : ℕ) (hr : r < 4) :
    divRow mesh4 (fun e => (0 : ℚ) + normalEdge mesh4 mu4 (fun _ => 0) e) r = neuRow mesh4 mb4 r :=
  C01.C01_cell_continuity mesh4 (fun _ => 0) (fun _ => 0) mb4 mu4 poisson4 r hr

/-- and the injected flux is not zero: the conclusion is not `0 = 0` -/
example : neuRow mesh4 mb4 0 = 4 := by decide +kernel

example (mb : ℕ → ℚ) (r : ℕ) (hr : r < 4) :
    mesh4.area r * neuRow mesh4 mb r
      = sumTo (fun b => (if mesh4.e0 (mesh4.bidx b) = r ∨ mesh4.e1 (mesh4.bidx b) = r
          then mesh4.len (mesh4.bidx b) / 2 * mb b else 0)) mesh4.nb :=
  C01.C01_cell_share mesh4 mesh4_wf mb r (mesh4_area r hr) (by norm_num)

/-- balanced terminal currents `(3, -3)` -/
example : terminalDensity 2 (fun t => if t = 0 then (3 : ℚ) else -3) (fun _ => 27/10) 0
    = 3 / (27/10) :=
  C01.C01_terminal_density_balanced 2 _ _ 0 (by norm_num) (by norm_num [sumTo])

/-! ### C10 with a non-empty pinned set (site 0 pinned) -/

def fixed4 : ℕ → Bool := fun r => r == 0

example : fixed4 0 = true ∧ fixed4 1 = false := ⟨rfl, rfl⟩

example (U₁ U₂ : ℕ → Cx ℚ) (i j : ℕ) :
    refreshLap mesh4 fixed4 (clapEntry mesh4 fixed4 U₁) U₂ i j = clapEntry mesh4 fixed4 U₂ i j :=
  C10.C10_refresh_lap_eq_build mesh4 mesh4_wf fixed4 U₁ U₂ i j

example (U₁ U₂ : ℕ → Cx ℚ) (e j : ℕ) (he : e < 5) :
    refreshGrad mesh4 (cgradEntry mesh4 U₁) U₂ e j = cgradEntry mesh4 U₂ e j :=
  C10.C10_refresh_grad_eq_build mesh4 mesh4_wf U₁ U₂ e j he

/-! ## 2. C12: sane adaptive options over `ℚ` -/

def optsQ : AdaptOpts ℚ :=
  { dtInit := 1/1000, dtMaxOpt := 1/10, adaptive := true, window := 2, mult := 1/4,
    maxRetries := 3, floor := 1/10^10, half := 1/2 }

theorem optsQ_sane : C12.Sane optsQ where
  init_pos := by norm_num [optsQ]
  init_le := by norm_num [optsQ]
  mult_pos := by norm_num [optsQ]
  mult_lt := by norm_num [optsQ]
  floor_pos := by norm_num [optsQ]
  half_eq := rfl

/-- an oracle refusing exactly the first two attempts `1/1000` and `1/4000` -/
def okQ : ℚ → Bool := fun dt => decide (dt < 1/10000)

theorem dtUsed_optsQ : dtUsed optsQ okQ (1/1000) = some (1/1000 * (1/4)^2) := by
  norm_num [dtUsed, eulerRetry, optsQ, okQ]

example : ∃ r, r ≤ optsQ.maxRetries + 1 ∧ (1/1000 * (1/4)^2 : ℚ) = 1/1000 * optsQ.mult ^ r ∧
    okQ (1/1000 * (1/4)^2) = true ∧ (∀ j, j < r → okQ (1/1000 * optsQ.mult ^ j) = false) ∧
    (0 < r → optsQ.adaptive = true) :=
  C12.C12_retry optsQ okQ _ _ dtUsed_optsQ

example (st : AdaptState ℚ) (step : ℕ) (dt d : ℚ) (hw : 2 < step) (hdt : 0 < dt) :
    (adaptAfter optsQ st step dt d).tentative
      = min (1 / 2 * (dt + optsQ.dtInit / max optsQ.floor (mean (lastN (st.hist ++ [d]) optsQ.window))))
          optsQ.dtMaxOpt :=
  C12.C12_rule optsQ optsQ_sane st step dt d rfl hw hdt

/-! ## 3. C05: the stopping hypothesis and the repaired loop on the witness that breaks the old one -/

def updN : ℕ → ℕ → ℕ → ℕ × ℕ × ℕ := fun s i _ => (1, s + 1, i)

theorem stopsAt7 : C05.StopsAt updN 0 7 7 := by
  constructor
  · decide
  · decide

example : ∃ e, runStage updN true 3 7 20 0 0 0 [] [] = some e ∧
    e.frames.map (·.step) = [0, 3, 6, 7] ∧
    e.frames.map (fun f => (f.step, f.snap)) = [(0, 0), (3, 3), (6, 6), (7, 7)] ∧
    (allRecs e.frames).length = 7 :=
  ⟨_, rfl, rfl, rfl, rfl⟩

example : ∃ e, runStage updN true 3 7 20 0 0 0 [] [] = some e :=
  C05.C05_stage_terminates updN 0 3 7 true 7 20 stopsAt7 (by decide)

/-! ## 4. C08: the same device in µm/mT/µA and in nm/µT/nA -/

def cQ : Consts ℚ := { pi := 22/7, mu0 := 1/800000, Phi0 := 1/(5*10^14) }
def uMicro : UnitSys ℚ := { lu := 1/10^6, fu := 1/10^3, cu := 1/10^6 }
def uNano : UnitSys ℚ := { lu := 1/10^9, fu := 1/10^6, cu := 1/10^9 }
/-- ξ = 0.5 µm, λ = 2 µm, d = 0.1 µm, B = 0.4 mT, I = 3 µA, L_t = 2.7 µm -/
def nMicro : Numbers ℚ := { xi := 1/2, lam := 2, d := 1/10, B := 2/5, I := 3, Lt := 27/10 }
def nNano : Numbers ℚ := { xi := 500, lam := 2000, d := 100, B := 400, I := 3000, Lt := 2700 }

theorem samePhysicsQ : C08.SamePhysics uMicro uNano nMicro nNano := by
  constructor <;> decide +kernel

theorem nonDegMicro : C08.NonDeg cQ uMicro nMicro := by
  constructor <;> decide +kernel

theorem nonDegNano : C08.NonDeg cQ uNano nNano := by
  constructor <;> decide +kernel

example : terminalMb cQ uMicro nMicro = terminalMb cQ uNano nNano :=
  C08.C08_terminal_density_invariant cQ uMicro uNano nMicro nNano samePhysicsQ nonDegMicro nonDegNano

example : bc2 cQ uMicro nMicro = bc2 cQ uNano nNano ∧ a0 cQ uMicro nMicro = a0 cQ uNano nNano ∧
    k0 cQ uMicro nMicro = k0 cQ uNano nNano :=
  C08.C08_scales_invariant cQ uMicro uNano nMicro nNano samePhysicsQ

/-! ## 5. C15: a directory with an existing output, a serial and a stale `.tmp` -/

def fs0 : FS := fun n =>
  if n = (none, false) then some {}
  else if n = (some 1, false) then some {}
  else if n = (some 2, true) then some {}
  else none

/-- serial 2 is skipped because its `.tmp` companion exists -/
theorem create_fs0 : ∃ fs', createOutput 10 none fs0 = some (some 3, fs') := ⟨_, rfl⟩

example : (createOutput 10 none fs0).map (·.1) = some (some 3) := rfl

example : fs0 (some 3, false) = none ∧ fs0 (some 3, true) = none := by
  obtain ⟨fs', h⟩ := create_fs0
  exact C15.C15_fresh_name 10 none fs0 fs' (some 3) h

/-! ## 6. C16: a depth-3 time-dependent tree and a reachable object -/

/-- a time-dependent 2D leaf and a static 3D leaf -/
def PT : PExpr ℚ := .leaf ⟨0, false, true⟩
def P3 : PExpr ℚ := .leaf ⟨1, true, false⟩

/-- `((PT * 2) * 3) + P3` -/
def tree3 : PExpr ℚ := .comp (.comp (.comp PT .mul (.num 2)) .mul (.num 3)) .add P3

example : tree3.td = true := rfl
example : tree3.depth = 3 := by decide
example : tree3.leaves = [⟨0, false, true⟩, ⟨1, true, false⟩] := rfl

example : ∃ l ∈ tree3.leaves, l.td = true := (C16.C16_td_iff tree3).1 rfl

/-- the same tree as an object, built with the (repaired) public constructor, three levels deep -/
def objT : PObj ℚ := PObj.newLeaf ⟨0, false, true⟩
def obj1 : PObj ℚ := .comp objT .mul (.num 2) Attrs.all
def obj2 : PObj ℚ := .comp obj1 .mul (.num 3) Attrs.all
def obj3 : PObj ℚ := .comp obj2 .add (PObj.newLeaf ⟨1, true, false⟩) Attrs.all

theorem obj3_reachable : C16.Reachable obj3 := by
  have h1 : C16.Reachable obj1 :=
    C16.Reachable.construct objT (.num 2) .mul obj1 (C16.Reachable.leaf _) (C16.Reachable.num 2) rfl
  have h2 : C16.Reachable obj2 :=
    C16.Reachable.construct obj1 (.num 3) .mul obj2 h1 (C16.Reachable.num 3) rfl
  exact C16.Reachable.construct obj2 (PObj.newLeaf ⟨1, true, false⟩) .add obj3 h2
    (C16.Reachable.leaf _) rfl

example : obj3.erase = tree3 := rfl
example : obj3.WellFormed := C16.C16_reachable_wellformed obj3 obj3_reachable
example : obj3.clearCache = .ok () :=
  C16.C16_clear_total obj3 (C16.C16_reachable_wellformed obj3 obj3_reachable)
/-- unpickling keeps it reachable, hence well formed -/
example : (PObj.roundtrip Attrs.all obj3).WellFormed :=
  C16.C16_reachable_wellformed _ (C16.Reachable.unpickle obj3 obj3_reachable)

/-! ## 7. C19: an accepted and a rejected option set -/

def optsOK : Opts ℚ :=
  { dtInit := 1/1000, dtMax := 1/10, terminalPsiAbs := some 0, mult := 1/4, drag := 1/2,
    stepSize := 1, tol := 1/1000, gpu := false, solver := .superlu,
    haveCupy := false, haveUmfpack := false, havePardiso := false }

/-- the same with `screening_step_drag = 3/2` -/
def optsBadDrag : Opts ℚ := { optsOK with drag := 3/2 }

theorem optsOK_validates : optsOK.validate = none := by
  norm_num [Opts.validate, optsOK]
  rfl

theorem optsBadDrag_rejected : optsBadDrag.validate = some .drag := by
  norm_num [Opts.validate, optsBadDrag, optsOK]

/-- the right-hand side of `C19_validate_ok_iff` is satisfiable -/
example : optsOK.dtInit ≤ optsOK.dtMax ∧ (∀ a, optsOK.terminalPsiAbs = some a → 0 ≤ a ∧ a ≤ 1) ∧
    (0 < optsOK.mult ∧ optsOK.mult < 1) ∧ (0 < optsOK.drag ∧ optsOK.drag ≤ 1) ∧ 0 < optsOK.stepSize ∧
    0 < optsOK.tol ∧ (optsOK.gpu = true → optsOK.haveCupy = true) ∧ optsOK.solver ≠ .unknown ∧
    (optsOK.solver = .umfpack → optsOK.haveUmfpack = true) ∧
    (optsOK.solver = .pardiso → optsOK.havePardiso = true) ∧
    (optsOK.solver = .cupy → optsOK.gpu = true) :=
  (C19.C19_validate_ok_iff optsOK).1 optsOK_validates

example : optsBadDrag.validate ≠ none :=
  C19.C19_reject_any optsBadDrag (Or.inr (Or.inr (Or.inr (Or.inr (Or.inr (Or.inl
    (by norm_num [optsBadDrag, optsOK])))))))

/-- balanced / unbalanced terminal currents -/
example : currentsAccepted (1/10^9 : ℚ) [3, -1, -2] = true :=
  C19.C19_balanced_accepted _ (by norm_num) _ (by norm_num [listSum])

/-! ## 8. C13: a screening loop over `K = V = ℚ` that converges at the third iteration

`phys A = A`, `kern J = J/2 + 1` (fixed point `A = 2`), `errOf dA A = |dA|`, under-relaxation
`α = 4/5`, no drag memory (`β = 1`), tolerance `2/5`.  The errors of the three executed iterations are
`1, 3/5, 9/25`; the last is below the tolerance. -/

def physQ : ℚ → ℚ := fun A => A
def kernQ : ℚ → ℚ := fun J => J / 2 + 1
def errQ : ℚ → ℚ → ℚ := fun dA _ => |dA|

deriving instance DecidableEq for ScreenResult

theorem screenQ :
    screenLoop (4/5 : ℚ) 1 (2/5) 10 physQ kernQ errQ 20 0 ⟨0, 0⟩ 0 none
      = .converged (196/125) (32/25) 3 (some (9/25)) := by
  decide +kernel

example : 0 < 3 ∧ ∃ e, some (9/25 : ℚ) = some e ∧ e < 2/5 :=
  C13.C13_exit (4/5 : ℚ) 1 (2/5) 10 physQ kernQ errQ 20 ⟨0, 0⟩ 0 _ _ 3 _ screenQ

example : ∃ sp : PolyakState ℚ, (32/25 : ℚ) = physQ sp.A ∧
    (196/125 : ℚ) = (polyak (4/5 : ℚ) 1 sp (kernQ (32/25))).A ∧
    some (9/25 : ℚ) = some (errQ (kernQ (32/25) - sp.A) (196/125)) :=
  C13.C13_exit_state (4/5 : ℚ) 1 (2/5) 10 physQ kernQ errQ 20 ⟨0, 0⟩ 0 _ _ 3 _ screenQ

/-! ## 9. C18: the pointwise kernel on predicates over `ℚ` satisfies the three laws -/

def predKernel : C18.Kernel (ℚ → Prop) ℚ where
  mem s p := s p
  union a b := fun p => a p ∨ b p
  inter a b := fun p => a p ∧ b p
  diff a b := fun p => a p ∧ ¬ b p
  mem_union _ _ _ := Iff.rfl
  mem_inter _ _ _ := Iff.rfl
  mem_diff _ _ _ := Iff.rfl

/-- three intervals -/
def Iv (a b : ℚ) : ℚ → Prop := fun p => a ≤ p ∧ p ≤ b

example (p : ℚ) :
    predKernel.mem (C18.unionAll predKernel (Iv 0 1) [Iv 2 3, Iv 5 8]) p
      ↔ predKernel.mem (Iv 0 1) p ∨ ∃ b ∈ [Iv 2 3, Iv 5 8], predKernel.mem b p :=
  C18.C18_union_chain predKernel (Iv 0 1) [Iv 2 3, Iv 5 8] p

/-- and the membership is what one expects on a point: `6 ∈ [0,1] ∪ [2,3] ∪ [5,8]` -/
example : predKernel.mem (C18.unionAll predKernel (Iv 0 1) [Iv 2 3, Iv 5 8]) 6 := by
  rw [C18.C18_union_chain]
  exact Or.inr ⟨Iv 5 8, by simp, by norm_num [predKernel, Iv]⟩

example (p : ℚ) :
    C18.deviceContains predKernel (Iv 0 10) [Iv 2 3, Iv 5 8] p
      ↔ predKernel.mem (Iv 0 10) p ∧ ∀ h ∈ [Iv 2 3, Iv 5 8], ¬ predKernel.mem h p :=
  C18.C18_device_contains predKernel (Iv 0 10) [Iv 2 3, Iv 5 8] p

/-! ## 10. C14: a device record with two terminals and a hole -/

open Tdgl.H5 in
def devS : DevRec String :=
  { name := "bridge", lengthUnits := "um",
    layer := ⟨"2.0", "0.5", "0.1", "5.79", "10.0", "0.0", none⟩,
    film := ⟨some "film", "mesh-bytes", "film-points"⟩,
    terminals := [("source", ⟨some "source", "m1", "p1"⟩), ("drain", ⟨some "drain", "m2", "p2"⟩)],
    holes := [("hole", ⟨none, "m3", "p3"⟩)],
    probePoints := some "probes" }

theorem devS_terminals_nodup : (devS.terminals.map (·.1)).Nodup := by decide
theorem devS_holes_nodup : (devS.holes.map (·.1)).Nodup := by decide

open Tdgl.H5 in
example : decodeDev (encodeDev (canonDev devS)) = some (canonDev devS) :=
  C14.C14_device_roundtrip_idempotent devS devS_terminals_nodup devS_holes_nodup

/-- the canonical form really reorders: "drain" comes before "source" -/
example : (H5.canonDev devS).terminals.map (·.1) = ["drain", "source"] := by decide

/-! ## 11. Further cheap witnesses (C07, C09, C17) -/

/-- a non-degenerate (scalene, counter-clockwise) triangle over `ℚ` -/
def triA : Pt ℚ := (0, 0)
def triB : Pt ℚ := (4, 0)
def triC : Pt ℚ := (1, 3)

theorem tri_nondeg : triArea2 triA triB triC ≠ 0 := by
  norm_num [triArea2, triA, triB, triC]

example : dist2 (circumcentre triA triB triC) triA = dist2 (circumcentre triA triB triC) triB ∧
    dist2 (circumcentre triA triB triC) triA = dist2 (circumcentre triA triB triC) triC :=
  C07.C07_circumcentre_equidistant triA triB triC tri_nondeg (by norm_num)

/-- the circumcentre is the expected point `(2, 1)` -/
example : circumcentre triA triB triC = (2, 1) := by
  norm_num [circumcentre, triA, triB, triC]

/-- a schedule with a repetition, out of order, that covers `0, 1, 2` (hypothesis `hcover` of C09) -/
theorem sched_covers : ∀ i, i < 3 → i ∈ [2, 0, 1, 0] := by decide

example (f buf : ℕ → ℚ) (i : ℕ) (hi : i < 3) :
    runSchedule f [2, 0, 1, 0] buf i = runSchedule f (List.range 3) buf i :=
  C09.C09_equals_sequential f [2, 0, 1, 0] 3 sched_covers buf i hi

/-- a linear "solver" maps the zero right-hand side to zero (hypothesis `hsolve` of C17) -/
example (m : FVMesh ℝ) (gamma u dt : ℝ) (k : ℕ) :
    runSteps m (fun _ => false) (linkOf C17.theta0) (fun rhs r => 3 * rhs r) (fun _ => 1) gamma u dt
      (fun _ => 0) k C17.uniform = some C17.uniform :=
  C17.C17_forever m (fun rhs r => 3 * rhs r) (by funext r; simp) gamma u dt k

end Tdgl.NonVacuity
