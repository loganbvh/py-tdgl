/-
  C01 — charge is conserved in every cell at every recorded step.
  Any field `K`, any well-formed mesh.  `μ` is ANY vector satisfying the Poisson equation the code
  hands to its sparse LU solver (the solve is an external call; its residual is checked at run time).
-/
import Mathlib.Algebra.BigOperators.Group.Finset.Basic
import Mathlib.Algebra.BigOperators.Ring.Finset
import Mathlib.Algebra.BigOperators.Field
import Mathlib.Algebra.Field.Basic
import Mathlib.Tactic.Ring
import Mathlib.Tactic.Linarith
import Mathlib.Tactic.FieldSimp
import Mathlib.Tactic.LinearCombination
import Tdgl.Lemmas.Operators
import Tdgl.Update

open Finset Tdgl

namespace Tdgl.C01

variable {K : Type} [Field K]

/-- `divRow` of the gradient is the Laplacian (same statement as C03). -/
private theorem lap_eq_div_grad (m : FVMesh K) (g : ℕ → K) (r : ℕ) :
    lapRow m g r = divRow m (gradEdge m g) r :=
  lapRow_eq_divRow_gradEdge m g r

/-- Per-cell continuity: if `μ` solves `L μ = D(Js − Ȧ) − B μ_b`, then the divergence of the total
    current `Js + Jn` (with `Jn = −Gμ − Ȧ`) in every cell equals the injected boundary flux of that cell. -/
theorem C01_cell_continuity (m : FVMesh K) (js dAdt mb mu : ℕ → K)
    (hmu : ∀ r, r < m.n → lapRow m mu r = poissonRhs m js dAdt mb r) (r : ℕ) (hr : r < m.n) :
    divRow m (fun e => js e + normalEdge m mu dAdt e) r = neuRow m mb r := by
  have h1 := hmu r hr
  rw [lap_eq_div_grad, poissonRhs] at h1
  -- `Js + (−Gμ − Ȧ) = (Js − Ȧ) − Gμ` and the divergence is linear
  rw [show (fun e => js e + normalEdge m mu dAdt e) = fun e => (js e - dAdt e) - gradEdge m mu e from
    funext fun e => by unfold normalEdge; ring, divRow_sub, h1]
  ring

-- STATEMENT CHANGED: added the hypothesis `(hm : m.WF)`.  Without it the statement is false: if a
-- boundary edge had `e0 (bidx b) = e1 (bidx b) = r` (a self-loop, excluded by `WF.lt` + `WF.bRange`),
-- the left-hand side counts `ℓ_b μ_b` (both halves) while the right-hand side counts `ℓ_b/2 μ_b`.
/-- The injected flux of a cell is its share (half of each incident boundary edge) of the boundary
    current density: `a_r (B μ_b)_r = Σ_{b ∋ r} (ℓ_b / 2) μ_b[b]`. -/
theorem C01_cell_share (m : FVMesh K) (hm : m.WF) (mb : ℕ → K) (r : ℕ) (ha : m.area r ≠ 0)
    (h2 : (2 : K) ≠ 0) :
    m.area r * neuRow m mb r
      = sumTo (fun b => (if m.e0 (m.bidx b) = r ∨ m.e1 (m.bidx b) = r
          then m.len (m.bidx b) / 2 * mb b else 0)) m.nb := by
  unfold neuRow
  rw [sumTo_eq, sumTo_eq, Finset.mul_sum]
  refine Finset.sum_congr rfl fun b hb => ?_
  have hlt := hm.lt _ (hm.bRange b (mem_range.1 hb))
  by_cases h0 : m.e0 (m.bidx b) = r
  · have h1 : m.e1 (m.bidx b) ≠ r := by
      intro h1; rw [h0, h1] at hlt; exact lt_irrefl _ hlt
    rw [if_pos h0, if_neg h1, if_pos (Or.inl h0), h0]
    field_simp
    ring
  · by_cases h1 : m.e1 (m.bidx b) = r
    · rw [if_neg h0, if_pos h1, if_pos (Or.inr h1), h1]
      field_simp
      ring
    · rw [if_neg h0, if_neg h1, if_neg (by tauto)]
      ring

/-- A cell that touches no boundary edge carrying a terminal current (interior cells, cells on
    insulating film edges and on hole edges) has exactly zero net outflow. -/
theorem C01_no_injection (m : FVMesh K) (js dAdt mb mu : ℕ → K)
    (hmu : ∀ r, r < m.n → lapRow m mu r = poissonRhs m js dAdt mb r) (r : ℕ) (hr : r < m.n)
    (hb : ∀ b, b < m.nb → (m.e0 (m.bidx b) = r ∨ m.e1 (m.bidx b) = r) → mb b = 0) :
    divRow m (fun e => js e + normalEdge m mu dAdt e) r = 0 := by
  rw [C01_cell_continuity m js dAdt mb mu hmu r hr]
  unfold neuRow
  rw [sumTo_eq]
  refine Finset.sum_eq_zero fun b hbm => ?_
  have hb' := hb b (mem_range.1 hbm)
  split_ifs with h0 h1 h1
  · rw [hb' (Or.inl h0)]; ring
  · rw [hb' (Or.inl h0)]; ring
  · rw [hb' (Or.inr h1)]; ring
  · ring

/-- Balanced currents: `−(1/L_t) Σ_{t' ≠ t} I_{t'} = I_t / L_t`. -/
theorem C01_terminal_density_balanced (T : ℕ) (cur tlen : ℕ → K) (t : ℕ) (ht : t < T)
    (hbal : sumTo cur T = 0) :
    terminalDensity T cur tlen t = cur t / tlen t := by
  unfold terminalDensity
  rw [sumTo_eq] at hbal ⊢
  have hsplit : ∑ t' ∈ range T, (if t' = t then 0 else cur t')
      = ∑ t' ∈ range T, cur t' - cur t := by
    have : ∀ t' ∈ range T, (if t' = t then 0 else cur t')
        = cur t' - (if t' = t then cur t' else 0) := by
      intro t' _; split_ifs <;> ring
    rw [Finset.sum_congr rfl this, Finset.sum_sub_distrib, Finset.sum_ite_eq' (range T) t,
      if_pos (mem_range.2 ht)]
  rw [hsplit, hbal]
  ring

/-- Units: with `J_scale = 4 c / (ℓ K₀)` (current unit `c`, length unit `ℓ`, both in SI), terminal
    length `L_t = ξ Λ_t` (`Λ_t` = dimensionless length of its boundary edges) and boundary density
    `μ_b = J_scale I_t / L_t`, the physical current `(K₀/4)·(ξ ℓ)·Λ_t·μ_b` entering through the terminal
    is the requested `I_t` in the user's current units (`I_t · c`). -/
theorem C01_terminal_current_units (K0 xi ell c It Lam : K) (hK : K0 ≠ 0) (hxi : xi ≠ 0)
    (hl : ell ≠ 0) (hL : Lam ≠ 0) (h4 : (4 : K) ≠ 0) :
    (K0 / 4) * (xi * ell) * Lam * ((4 * c / (ell * K0)) * It / (xi * Lam)) = It * c := by
  field_simp

end Tdgl.C01
