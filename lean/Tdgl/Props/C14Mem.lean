/-
  C14 (in-memory save) — a Solution saved after its output file is gone loads back with the fields of the frame
  that was selected and the per-step records of the WHOLE run, whichever frame was selected.
-/
import Mathlib.Data.List.Basic
import Mathlib.Order.Basic
import Mathlib.Tactic.Common
import Tdgl.Runner
import Tdgl.Reader
import Tdgl.SolutionSave
import Tdgl.Props.C05Reader

open Tdgl

namespace Tdgl.C14

variable {K S R : Type} [OfNat K 0] [LT K] [DecidableLT K]

/-- the single frame written by an in-memory save reads back as the whole record list (the buffer is longer than any
    `k`, so no padding is involved; every genuine record has `dt > 0`) -/
theorem C14_memsave_records (dtOf : R → K) (k : ℕ) (zero : R) (m : SolMem K S R)
    (hpos : ∀ r ∈ m.dyn, (0 : K) < dtOf r) (hzero : ¬ (0 : K) < dtOf zero) :
    readRecords dtOf k zero (memSave m) = m.dyn := by
  rw [C05.readRecords_eq_allRecs dtOf k zero _ hzero (fun f hf l hl => by
    rw [List.mem_singleton.1 hf] at hl; exact Option.some.inj hl ▸ hpos)]
  exact List.append_nil _

/-- Round trip: load ∘ save gives back the selected frame's step, time and fields and ALL per-step records. -/
theorem C14_memsave_roundtrip (dtOf : R → K) (k : ℕ) (zero : R) (m : SolMem K S R)
    (hpos : ∀ r ∈ m.dyn, (0 : K) < dtOf r) (hzero : ¬ (0 : K) < dtOf zero) :
    ∃ m', memLoad dtOf k zero (memSave m) = some m' ∧ m'.dyn = m.dyn ∧
      m'.sel.step = m.sel.step ∧ m'.sel.time = m.sel.time ∧ m'.sel.snap = m.sel.snap := by
  refine ⟨⟨{ step := m.sel.step, time := m.sel.time, snap := m.sel.snap, recs := some m.dyn },
    readRecords dtOf k zero (memSave m)⟩, ?_, C14_memsave_records dtOf k zero m hpos hzero, rfl, rfl, rfl⟩
  simp [memLoad, memSave]

/-- ... for every frame of a multi-frame solution that may be selected before the save: the records that come back
    are those of the whole run, not those up to the selected frame. -/
theorem C14_memsave_any_selected_frame (dtOf : R → K) (k : ℕ) (zero : R) (frames : List (Frame K S R))
    (i : ℕ) (m : SolMem K S R) (hpos : ∀ r ∈ m.dyn, (0 : K) < dtOf r) (hzero : ¬ (0 : K) < dtOf zero) :
    readRecords dtOf k zero (memSave (selectFrame frames i m)) = m.dyn := by
  have h : (selectFrame frames i m).dyn = m.dyn := by
    unfold selectFrame
    cases frames[i]? <;> rfl
  rw [C14_memsave_records dtOf k zero _ (by rw [h]; exact hpos) hzero, h]

/-- the alternative "save only the records up to the selected step" is NOT a round trip: one lost record suffices -/
theorem C14_truncating_save_loses_records :
    ∃ (dyn : List ℕ) (n : ℕ), dyn.take n ≠ dyn := ⟨[1, 2], 1, by decide⟩

/-- non-vacuity: a two-step record, second frame of three selected -/
example : readRecords (K := ℕ) (S := Unit) (fun r : ℕ => r) 3 0
    (memSave (selectFrame [⟨0, 0, (), none⟩, ⟨2, 5, (), some [2, 3]⟩, ⟨3, 9, (), some [4]⟩] 1 ⟨⟨3, 9, (), some [4]⟩, [2, 3, 4]⟩))
    = [2, 3, 4] := by decide

end Tdgl.C14
