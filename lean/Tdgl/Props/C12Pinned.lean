/-
  C12 / C17 (what feeds the windowed mean) — on the terminal sites the update re-imposes BOTH the terminal value and its
  squared modulus, so a state that already holds the terminal value contributes exactly zero to
  `max |change of |ψ|²|`: the adaptive rule sees only the free sites.  (If only ψ were re-imposed, the discarded Euler
  drift of the pinned sites would be taken for a real change and the step would stall: two seeded changes did that.)
-/
import Mathlib.Analysis.SpecialFunctions.Trigonometric.Basic
import Mathlib.Tactic.Ring
import Mathlib.Tactic.Linarith
import Tdgl.Lemmas.RealInst
import Tdgl.Lemmas.Update
import Tdgl.Operators
import Tdgl.Update
import Tdgl.Adaptive
import Tdgl.AdaptiveRun

open Tdgl

namespace Tdgl.C12

/-- a pinned site that holds the terminal value before the update holds it, with the same |ψ|², after it -/
theorem C12_pinned_sites_do_not_feed_delta (m : FVMesh ℝ) (fixed : ℕ → Bool) (v : Cx ℝ) (U : ℕ → Cx ℝ)
    (psi : ℕ → Cx ℝ) (mu eps : ℕ → ℝ) (gamma u dt : ℝ) (out : ℕ → Cx ℝ × ℝ)
    (h : eulerPinnedFn m fixed (some v) U psi (fun r => absSq (psi r)) mu eps gamma u dt = some out)
    (r : ℕ) (hf : fixed r = true) (hp : psi r = v) :
    (out r).1 = v ∧ (out r).2 - absSq (psi r) = 0 := by
  obtain ⟨-, rfl⟩ := (eulerPinnedFn_eq_some_iff ..).mp h
  simp only [pinSite, hf, if_true, hp, sub_self, and_self]

/-- hence the quantity recorded for the windowed mean is the maximum over the free sites only: replacing the
    new squared modulus on pinned sites by the old one changes nothing -/
theorem C12_delta_is_over_free_sites (m : FVMesh ℝ) (fixed : ℕ → Bool) (v : Cx ℝ) (U : ℕ → Cx ℝ)
    (psi : ℕ → Cx ℝ) (mu eps : ℕ → ℝ) (gamma u dt : ℝ) (out : ℕ → Cx ℝ × ℝ)
    (h : eulerPinnedFn m fixed (some v) U psi (fun r => absSq (psi r)) mu eps gamma u dt = some out)
    (hp : ∀ r, fixed r = true → psi r = v) :
    maxChange m.n (fun r => (out r).2) (fun r => absSq (psi r))
      = maxChange m.n (fun r => if fixed r then absSq (psi r) else (out r).2) (fun r => absSq (psi r)) := by
  have hfun : (fun r => (out r).2) = (fun r => if fixed r then absSq (psi r) else (out r).2) := by
    funext r
    by_cases hf : fixed r = true
    · have := (C12_pinned_sites_do_not_feed_delta m fixed v U psi mu eps gamma u dt out h r hf (hp r hf)).2
      simp only [hf, if_true]
      linarith
    · simp [hf]
  rw [← hfun]

/-- the counter-statement: if only ψ is re-imposed and the squared modulus keeps the value of the Euler step, a pinned
    site whose Euler step moved |ψ|² from 1 to 1.03 feeds 0.03 into the mean although the state did not change -/
example : absVal ((1.03 : ℝ) - 1) ≠ 0 ∧ absVal ((1 : ℝ) - 1) = 0 := by
  constructor
  · unfold absVal; norm_num
  · unfold absVal; norm_num

end Tdgl.C12
