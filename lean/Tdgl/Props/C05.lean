/-
  C05 — recorded frames, times and per-step records are consistent.
  Model: Tdgl/Runner.lean (`runStage`, `run`, `traj`, `recAt`, `allRecs`).  For every physics `upd`,
  every save interval `k ≥ 1`, every end time `T`, every finished run (any fuel).
-/
import Mathlib.Data.List.Basic
import Mathlib.Order.Basic
import Mathlib.Tactic.Common
import Tdgl.Runner
import Tdgl.Lemmas.Stage

open Tdgl

namespace Tdgl.C05

variable {K S R : Type} [Add K] [LE K] [DecidableLE K] [OfNat K 0]

/-- `N` is the first loop index whose clock has reached `T` -/
def StopsAt (upd : S → ℕ → K → K × S × R) (s0 : S) (T : K) (N : ℕ) : Prop :=
  T ≤ (traj upd s0 N).1 ∧ ∀ j, j < N → ¬ T ≤ (traj upd s0 j).1


private theorem terminates_aux (upd : S → ℕ → K → K × S × R) (s0 : S) (k : ℕ) (T : K) (save : Bool)
    (N : ℕ) (hN : StopsAt upd s0 T N) :
    ∀ (fuel i : ℕ) (buf : List R) (fr : List (Frame K S R)), i ≤ N → N < i + fuel →
      ∃ e, runStage upd save k T fuel i (traj upd s0 i).1 (traj upd s0 i).2 buf fr = some e := by
  intro fuel
  induction fuel with
  | zero => intro i buf fr h1 h2; omega
  | succ fuel ih =>
    intro i buf fr h1 h2
    rw [runStage_succ]
    by_cases hT : T ≤ (traj upd s0 i).1
    · rw [if_pos hT]; exact ⟨_, rfl⟩
    · rw [if_neg hT]
      have hne : i ≠ N := by
        rintro rfl; exact hT hN.1
      exact ih (i+1) _ _ (by omega) (by omega)

/-- Full specification of one recorded stage: it stops at the first step `N` whose time reaches `T`;
    frames are labelled `0, k, 2k, …` and `N`; the frame labelled `s` holds the state after exactly `s`
    updates at the time that is the sum of the first `s` time steps; and the per-step records read back
    from the frames are exactly one record per step `0 … N−1`, in order. -/
theorem C05_stage_spec (upd : S → ℕ → K → K × S × R) (s0 : S) (k : ℕ) (hk : 0 < k) (T : K)
    (fuel : ℕ) (e : StageEnd K S R)
    (h : runStage upd true k T fuel 0 0 s0 [] [] = some e) :
    ∃ N, StopsAt upd s0 T N ∧ e.steps = N ∧ e.time = (traj upd s0 N).1 ∧ e.state = (traj upd s0 N).2 ∧
      e.frames.map (·.step) = ((List.range (N+1)).filter (fun i => i % k = 0))
          ++ (if N % k = 0 then [] else [N]) ∧
      (∀ f, f ∈ e.frames → f.time = (traj upd s0 f.step).1 ∧ f.snap = (traj upd s0 f.step).2) ∧
      allRecs e.frames = (List.range N).map (recAt upd s0) := by
  obtain ⟨hstop, ht, hs, hr⟩ := runStage_spec h
  exact ⟨e.steps, hstop, rfl, ht, hs, hr.labels.trans (gridBelow_succ_append k e.steps).symm, hr.onTraj,
    (List.append_nil _).symm.trans (hr.recs rfl)⟩

/-- The stage finishes as soon as the fuel exceeds the stopping step. -/
theorem C05_stage_terminates (upd : S → ℕ → K → K × S × R) (s0 : S) (k : ℕ) (T : K) (save : Bool)
    (N fuel : ℕ) (hN : StopsAt upd s0 T N) (hf : N < fuel) :
    ∃ e, runStage upd save k T fuel 0 0 s0 [] [] = some e :=
  terminates_aux upd s0 k T save N hN fuel 0 [] [] (Nat.zero_le _) (by omega)

/-- An unsaved (thermalisation) stage records nothing and ends in the state after `N` updates. -/
theorem C05_unsaved_stage (upd : S → ℕ → K → K × S × R) (s0 : S) (k : ℕ) (T : K)
    (fuel : ℕ) (e : StageEnd K S R)
    (h : runStage upd false k T fuel 0 0 s0 [] [] = some e) :
    e.frames = [] ∧ ∃ N, StopsAt upd s0 T N ∧ e.state = (traj upd s0 N).2 := by
  obtain ⟨hstop, _, hs, hr⟩ := runStage_spec h
  exact ⟨List.map_eq_nil_iff.1 hr.labels, e.steps, hstop, hs⟩

/-- Thermalisation steps are never recorded, and the recorded stage restarts at step 0, time 0 from
    the thermalised state: the run with thermalisation equals the run without, started from it. -/
theorem C05_thermalise (upd : S → ℕ → K → K × S × R) (s0 : S) (k : ℕ) (Ts T : K) (fuel : ℕ)
    (fr : List (Frame K S R)) (fin : S)
    (h : run upd k (some Ts) T fuel s0 = .done fr fin) :
    ∃ N1, StopsAt upd s0 Ts N1 ∧ run upd k none T fuel (traj upd s0 N1).2 = .done fr fin := by
  unfold run at h
  by_cases hk : k = 0
  · rw [if_pos hk] at h; cases h
  · rw [if_neg hk] at h
    simp only at h
    cases h1 : runStage upd false k Ts fuel 0 0 s0 [] [] with
    | none => rw [h1] at h; cases h
    | some e1 =>
      rw [h1] at h
      obtain ⟨_, N1, hN1, hst⟩ := C05_unsaved_stage upd s0 k Ts fuel e1 h1
      refine ⟨N1, hN1, ?_⟩
      unfold run
      rw [if_neg hk, ← hst]
      exact h

/-- `save_every = 0` is an error (`ZeroDivisionError` in `i % save_every`), never a silent run. -/
theorem C05_zero_interval_is_error (upd : S → ℕ → K → K × S × R) (skip : Option K) (T : K) (fuel : ℕ)
    (s0 : S) : run upd 0 skip T fuel s0 = .zeroDivision := by
  simp [run]

/-- The loop of the pinned upstream tree (update before the stop test) violates the property:
    with unit time steps, `k = 3`, `T = 7` the final frame is labelled step 7 but holds the state after
    8 updates, and 8 per-step records are read back. -/
theorem C05_old_loop_counterexample :
    let upd : ℕ → ℕ → ℕ → ℕ × ℕ × ℕ := fun s i _ => (1, s + 1, i)
    ∃ e, runStageOld upd true 3 7 20 0 0 0 [] [] = some e ∧
      e.frames.map (fun f => (f.step, f.snap)) = [(0, 0), (3, 3), (6, 6), (7, 8)] ∧
      (allRecs e.frames).length = 8 := by
  intro upd
  refine ⟨_, rfl, ?_, ?_⟩ <;> rfl


end Tdgl.C05
