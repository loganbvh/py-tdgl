/-
  C17 — the uniform superconducting state is exactly stationary.   (K := ℝ)
-/
import Mathlib.Tactic.Ring
import Mathlib.Tactic.Linarith
import Mathlib.Tactic.FieldSimp
import Tdgl.Lemmas.Sums
import Tdgl.Lemmas.RealInst
import Tdgl.Lemmas.Quadratic
import Tdgl.Lemmas.Site
import Tdgl.Lemmas.Operators
import Tdgl.Update
import Tdgl.Props.C02

open Finset Tdgl

namespace Tdgl.C17

/-- zero link exponents -/
def theta0 : ℕ → ℝ := fun _ => 0

private theorem link0 (e : ℕ) : linkOf theta0 e = ⟨1, 0⟩ := by
  simp [linkOf, theta0, Cx.expNegI]

/-- With `A = 0` the covariant Laplacian annihilates constants (rows sum to zero) on every mesh. -/
theorem C17_lap_const_zero (m : FVMesh ℝ) (c : Cx ℝ) (r : ℕ) :
    clapRow m (fun _ => false) (linkOf theta0) (fun _ => c) r = ⟨0, 0⟩ := by
  apply toC_injective
  rw [toC_clapRow_free]
  refine Finset.sum_eq_zero fun e _ => ?_
  simp only [link0, show toC (⟨1, 0⟩ : Cx ℝ) = 1 from toC_one, map_one, one_mul, sub_self, mul_zero, ite_self,
    add_zero]

/-- The supercurrent of a constant order parameter vanishes at `A = 0`. -/
theorem C17_supercurrent_zero (m : FVMesh ℝ) (c : Cx ℝ) (e : ℕ) :
    superEdge m (linkOf theta0) (fun _ => c) e = 0 := by
  unfold superEdge cgradEdge
  rw [link0]
  simp only [Cx.add, Cx.mul, Cx.smul, Cx.conj]
  ring

/-- One site: `ψ = 1, |ψ|² = 1, μ = 0, ε = 1`, vanishing Laplacian ⇒ the update returns exactly `ψ' = 1`,
    `|ψ'|² = 1`, for every `γ`, every `u ≠ 0` and every `dt`. -/
theorem C17_site_fixed_point (gamma u dt : ℝ) :
    stepSite (⟨1, 0⟩ : Cx ℝ) 1 0 1 gamma u dt ⟨0, 0⟩ = some (⟨1, 0⟩, 1) := by
  have h := stepSite_stationary ⟨1, 0⟩ ⟨0, 0⟩ 1 gamma u dt (by apply Cx.ext' <;> simp [Cx.add, Cx.smul, Cx.normSq])
  rwa [show Cx.normSq (⟨1, 0⟩ : Cx ℝ) = 1 by norm_num [Cx.normSq]] at h

/-- the uniform state -/
def uniform : MState ℝ := ⟨fun _ => ⟨1, 0⟩, fun _ => 0, fun _ => 0, fun _ => 0⟩

theorem absSq_one : absSq (⟨1, 0⟩ : Cx ℝ) = 1 := by
  rw [C02.C02_absSq_eq]; norm_num [Cx.normSq]

/-- every site of the uniform state is a fixed point of the Euler step -/
theorem eulerSite_uniform (m : FVMesh ℝ) (gamma u dt : ℝ) (r : ℕ) :
    eulerSite m (fun _ => false) (linkOf theta0) (fun _ => (⟨1, 0⟩ : Cx ℝ))
      (fun _ => absSq (⟨1, 0⟩ : Cx ℝ)) (fun _ => 0) (fun _ => 1) gamma u dt r = some (⟨1, 0⟩, 1) := by
  unfold eulerSite
  rw [C17_lap_const_zero, absSq_one]
  exact C17_site_fixed_point gamma u dt

/-- the uniform state carries no current and asks for no potential -/
theorem observables_uniform (m : FVMesh ℝ) (solve : (ℕ → ℝ) → (ℕ → ℝ)) (hsolve : solve (fun _ => 0) = fun _ => 0) :
    observables m solve (linkOf theta0) (fun _ => (⟨1, 0⟩ : Cx ℝ)) (fun _ => 0) (fun _ => 0)
      = ((fun _ => 0), (fun _ => 0), (fun _ => 0)) := by
  have hjs : superEdge m (linkOf theta0) (fun _ => (⟨1, 0⟩ : Cx ℝ)) = fun _ => 0 :=
    funext fun e => C17_supercurrent_zero m _ e
  have hrhs : poissonRhs m (fun _ => (0 : ℝ)) (fun _ => 0) (fun _ => 0) = fun _ => 0 := by
    funext r
    unfold poissonRhs
    rw [divRow_sub, sub_self, neuRow_zero, sub_zero]
  have hjn : normalEdge m (fun _ => (0 : ℝ)) (fun _ => 0) = fun _ => 0 := by
    funext e
    unfold normalEdge gradEdge
    ring
  simp only [observables, hjs, hrhs, hsolve, hjn]

/-- One whole update leaves the uniform state unchanged: no current, potential or amplitude change,
    on every mesh, given only that the linear solver maps the zero right-hand side to zero. -/
theorem C17_step_fixed_point (m : FVMesh ℝ) (solve : (ℕ → ℝ) → (ℕ → ℝ)) (hsolve : solve (fun _ => 0) = fun _ => 0)
    (gamma u dt : ℝ) :
    fullStep m (fun _ => false) (linkOf theta0) solve (fun _ => 1) gamma u dt (fun _ => 0) uniform
      = some uniform := by
  have heuler : eulerFn m (fun _ => false) (linkOf theta0) (fun _ => (⟨1, 0⟩ : Cx ℝ))
      (fun _ => absSq (⟨1, 0⟩ : Cx ℝ)) (fun _ => 0) (fun _ => 1) gamma u dt
        = some (fun _ => ⟨1, 0⟩) := by
    unfold eulerFn
    simp [eulerSite_uniform]
  unfold fullStep uniform
  simp only [heuler, observables_uniform m solve hsolve]

/-- ... hence after any number of updates. -/
theorem C17_forever (m : FVMesh ℝ) (solve : (ℕ → ℝ) → (ℕ → ℝ)) (hsolve : solve (fun _ => 0) = fun _ => 0)
    (gamma u dt : ℝ) (k : ℕ) :
    runSteps m (fun _ => false) (linkOf theta0) solve (fun _ => 1) gamma u dt (fun _ => 0) k uniform
      = some uniform := by
  induction k with
  | zero => rfl
  | succ k ih =>
    unfold runSteps
    rw [C17_step_fixed_point m solve hsolve gamma u dt]
    exact ih

end Tdgl.C17
