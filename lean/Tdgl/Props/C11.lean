/-
  C11 — the trajectory depends only on the physics and can be resumed.
  Model: Tdgl/Runner.lean.
-/
import Mathlib.Data.List.Basic
import Mathlib.Order.Basic
import Mathlib.Tactic.Common
import Tdgl.Runner
import Tdgl.Lemmas.Stage

open Tdgl

namespace Tdgl.C11

variable {K S R : Type} [Add K] [LE K] [DecidableLE K] [OfNat K 0]


/-- Every frame of every finished recorded stage, whatever the save interval, is the point of the one
    trajectory `traj upd s0` that its label names. -/
theorem C11_frame_on_trajectory (upd : S → ℕ → K → K × S × R) (s0 : S) (k : ℕ) (T : K) (fuel : ℕ)
    (e : StageEnd K S R) (h : runStage upd true k T fuel 0 0 s0 [] [] = some e)
    (f : Frame K S R) (hf : f ∈ e.frames) :
    f.time = (traj upd s0 f.step).1 ∧ f.snap = (traj upd s0 f.step).2 :=
  (runStage_spec h).2.2.2.onTraj f hf

/-- Frames carrying the same step label are identical (time and snapshot) whatever the two save
    intervals were. -/
theorem C11_same_label_same_frame (upd : S → ℕ → K → K × S × R) (s0 : S) (k k' : ℕ) (T : K)
    (fuel fuel' : ℕ) (e e' : StageEnd K S R)
    (h : runStage upd true k T fuel 0 0 s0 [] [] = some e)
    (h' : runStage upd true k' T fuel' 0 0 s0 [] [] = some e')
    (f f' : Frame K S R) (hf : f ∈ e.frames) (hf' : f' ∈ e'.frames) (hs : f.step = f'.step) :
    f.time = f'.time ∧ f.snap = f'.snap := by
  obtain ⟨h1, h2⟩ := C11_frame_on_trajectory upd s0 k T fuel e h f hf
  obtain ⟨h1', h2'⟩ := C11_frame_on_trajectory upd s0 k' T fuel' e' h' f' hf'
  rw [h1, h2, h1', h2', hs]
  exact ⟨rfl, rfl⟩

/-- Observers do not interfere: two update functions that agree on the time step and the new state
    (they may produce different per-step records — e.g. with and without voltage probes) give the same
    trajectory. -/
theorem C11_records_do_not_interfere {R' : Type} (upd : S → ℕ → K → K × S × R)
    (upd' : S → ℕ → K → K × S × R') (s0 : S)
    (h : ∀ s i t, (upd s i t).1 = (upd' s i t).1 ∧ (upd s i t).2.1 = (upd' s i t).2.1) (n : ℕ) :
    traj upd s0 n = traj upd' s0 n := by
  induction n with
  | zero => rfl
  | succ n ih =>
    show ((traj upd s0 n).1 + (upd (traj upd s0 n).2 n (traj upd s0 n).1).1,
        (upd (traj upd s0 n).2 n (traj upd s0 n).1).2.1) =
      ((traj upd' s0 n).1 + (upd' (traj upd' s0 n).2 n (traj upd' s0 n).1).1,
        (upd' (traj upd' s0 n).2 n (traj upd' s0 n).1).2.1)
    rw [ih, (h _ _ _).1, (h _ _ _).2]


omit [OfNat K 0] in
private theorem probes_aux {R' : Type} (upd : S → ℕ → K → K × S × R)
    (upd' : S → ℕ → K → K × S × R')
    (h : ∀ s i t, (upd s i t).1 = (upd' s i t).1 ∧ (upd s i t).2.1 = (upd' s i t).2.1)
    (k : ℕ) (T : K) (save : Bool) :
    ∀ (fuel i : ℕ) (t : K) (s : S) (buf : List R) (buf' : List R')
      (fr : List (Frame K S R)) (fr' : List (Frame K S R')),
      fr.map (fun f => (f.step, f.time, f.snap)) = fr'.map (fun f => (f.step, f.time, f.snap)) →
      (runStage upd save k T fuel i t s buf fr).map
          (fun e => e.frames.map (fun f => (f.step, f.time, f.snap)))
        = (runStage upd' save k T fuel i t s buf' fr').map
          (fun e => e.frames.map (fun f => (f.step, f.time, f.snap))) := by
  intro fuel
  induction fuel with
  | zero => intro i t s buf buf' fr fr' _; rfl
  | succ fuel ih =>
    intro i t s buf buf' fr fr' hfr
    rw [runStage_succ, runStage_succ]
    have hfr2 : (if i % k = 0 ∧ save = true then fr ++ [mkFrame i t s buf] else fr).map
          (fun f => (f.step, f.time, f.snap))
        = (if i % k = 0 ∧ save = true then fr' ++ [mkFrame i t s buf'] else fr').map
          (fun f => (f.step, f.time, f.snap)) := by
      by_cases hk : i % k = 0 <;> cases save <;> simp [hk, hfr, mkFrame]
    by_cases hT : T ≤ t
    · rw [if_pos hT, if_pos hT]
      simp only [Option.map_some]
      congr 1
      by_cases hs : save = true ∧ i % k ≠ 0
      · rw [if_pos hs, if_pos hs, List.map_append, List.map_append, hfr2]
        rfl
      · rw [if_neg hs, if_neg hs]
        exact hfr2
    · rw [if_neg hT, if_neg hT, (h s i t).1, (h s i t).2]
      exact ih (i+1) _ _ _ _ _ _ hfr2

/-- ... and hence the same frames (labels, times, snapshots), for every save interval. -/
theorem C11_probes_do_not_interfere {R' : Type} (upd : S → ℕ → K → K × S × R)
    (upd' : S → ℕ → K → K × S × R') (s0 : S)
    (h : ∀ s i t, (upd s i t).1 = (upd' s i t).1 ∧ (upd s i t).2.1 = (upd' s i t).2.1)
    (k : ℕ) (T : K) (fuel : ℕ) :
    (runStage upd true k T fuel 0 0 s0 [] []).map
        (fun e => e.frames.map (fun f => (f.step, f.time, f.snap)))
      = (runStage upd' true k T fuel 0 0 s0 [] []).map
        (fun e => e.frames.map (fun f => (f.step, f.time, f.snap))) :=
  probes_aux upd upd' h k T true fuel 0 0 s0 [] [] [] [] rfl

/-- Resumption: if the update ignores the step index and the clock (time-independent drive, fixed time
    step: what a seed solution does not restore is then irrelevant), the state after `N₁ + N₂` updates
    is the state after `N₂` updates started from the state after `N₁` updates. -/
theorem C11_resume (upd : S → ℕ → K → K × S × R) (s0 : S)
    (hind : ∀ s i t i' t', (upd s i t).2.1 = (upd s i' t').2.1) (N₁ N₂ : ℕ) :
    (traj upd s0 (N₁ + N₂)).2 = (traj upd (traj upd s0 N₁).2 N₂).2 := by
  induction N₂ with
  | zero => rfl
  | succ n ih =>
    show (upd (traj upd s0 (N₁ + n)).2 (N₁ + n) (traj upd s0 (N₁ + n)).1).2.1 =
      (upd (traj upd (traj upd s0 N₁).2 n).2 n (traj upd (traj upd s0 N₁).2 n).1).2.1
    rw [ih]
    exact hind _ _ _ _ _


end Tdgl.C11
