/-
  C18 — polygon and device geometry operations mean what they say.   Model: Tdgl/Geometry.lean.
  The set operations and point membership are shapely / matplotlib: they enter as an abstract membership
  predicate per shape (`mem : Shape → Pt → Prop`) with the pointwise laws those libraries are trusted to
  satisfy away from boundaries; the repo's own logic on top of them is what is proved.
-/
import Mathlib.Algebra.Order.Field.Basic
import Mathlib.Tactic.Ring
import Mathlib.Tactic.Linarith
import Mathlib.Tactic.Common
import Tdgl.Geometry

open Tdgl

namespace Tdgl.C18

section area
variable {K : Type} [Field K]

/-- sum of cross products over consecutive pairs of an open chain -/
private def chain : List (Pt K) → K
  | [] => 0
  | [_] => 0
  | p :: q :: rest => cross p q + chain (q :: rest)

private theorem shoelace_eq_chain (rest : List (Pt K)) (p first : Pt K) :
    shoelace2 (p :: rest) first = chain (p :: rest ++ [first]) := by
  induction rest generalizing p with
  | nil => simp [shoelace2, chain]
  | cons q r ih =>
    have := ih q
    simp only [List.cons_append] at this ⊢
    simp only [shoelace2, chain, this]

private theorem signedArea_eq_chain (rest : List (Pt K)) (p : Pt K) :
    signedArea2 (p :: rest) = chain (p :: rest ++ [p]) :=
  shoelace_eq_chain rest p p

private theorem chain_append (l1 l2 : List (Pt K)) (x : Pt K) :
    chain (l1 ++ x :: l2) = chain (l1 ++ [x]) + chain (x :: l2) := by
  induction l1 with
  | nil => simp [chain]
  | cons p l1 ih =>
    cases l1 with
    | nil => simp [chain]
    | cons q l1' =>
      simp only [List.cons_append] at ih ⊢
      simp only [chain, ih]
      ring

private theorem chain_reverse (l : List (Pt K)) : chain l.reverse = - chain l := by
  induction l with
  | nil => simp [chain]
  | cons p l ih =>
    cases l with
    | nil => simp [chain]
    | cons q r =>
      have h1 : (p :: q :: r).reverse = r.reverse ++ q :: [p] := by simp
      have h2 : (q :: r).reverse = r.reverse ++ [q] := by simp
      rw [h1, chain_append, ← h2, ih]
      simp only [chain, cross]
      ring

private theorem shoelace_affine (T : Affine K) (rest : List (Pt K)) (p first : Pt K) :
    shoelace2 ((p :: rest).map T.apply) (T.apply first)
      = T.det * shoelace2 (p :: rest) first
        + T.tx * ((T.apply first).2 - (T.apply p).2) - T.ty * ((T.apply first).1 - (T.apply p).1) := by
  induction rest generalizing p with
  | nil =>
    simp only [List.map, shoelace2, cross, Affine.apply, Affine.det]
    ring
  | cons q r ih =>
    have := ih q
    simp only [List.map_cons] at this ⊢
    simp only [shoelace2, this]
    simp only [cross, Affine.apply, Affine.det]
    ring

/-- The shoelace area transforms with the determinant under any affine map, for polygons with any number
    of vertices. -/
theorem C18_area_affine (T : Affine K) (l : List (Pt K)) :
    signedArea2 (l.map T.apply) = T.det * signedArea2 l := by
  cases l with
  | nil => simp [signedArea2]
  | cons p rest =>
    show shoelace2 ((p :: rest).map T.apply) (T.apply p) = T.det * shoelace2 (p :: rest) p
    rw [shoelace_affine]
    ring

/-- Translation preserves area. -/
theorem C18_translate_area (tx ty : K) (l : List (Pt K)) :
    signedArea2 (l.map (Affine.apply ⟨1, 0, 0, 1, tx, ty⟩)) = signedArea2 l := by
  rw [C18_area_affine]
  simp [Affine.det]

/-- Rotation (`c² + s² = 1`) about any origin preserves area. -/
theorem C18_rotate_area (c s ox oy : K) (h : c * c + s * s = 1) (l : List (Pt K)) :
    signedArea2 (l.map (Affine.apply ⟨c, -s, s, c, ox - c * ox + s * oy, oy - s * ox - c * oy⟩))
      = signedArea2 l := by
  rw [C18_area_affine]
  have : Affine.det (⟨c, -s, s, c, ox - c * ox + s * oy, oy - s * ox - c * oy⟩ : Affine K) = 1 := by
    simp only [Affine.det]
    rw [← h]
    ring
  rw [this, one_mul]

/-- Scaling by `(fx, fy)` about any origin multiplies the signed area by `fx · fy`
    (a reflection, `fx fy < 0`, flips the orientation). -/
theorem C18_scale_area (fx fy ox oy : K) (l : List (Pt K)) :
    signedArea2 (l.map (Affine.apply ⟨fx, 0, 0, fy, ox - fx * ox, oy - fy * oy⟩))
      = fx * fy * signedArea2 l := by
  rw [C18_area_affine]
  simp [Affine.det]

/-- Reversing the vertex order negates the signed area. -/
theorem C18_reverse_area (l : List (Pt K)) : signedArea2 l.reverse = - signedArea2 l := by
  cases l with
  | nil => simp [signedArea2]
  | cons p rest =>
    rcases List.eq_nil_or_concat rest with rfl | ⟨m, z, hz⟩
    · show cross p p = - cross p p
      simp only [cross]
      ring
    · rw [List.concat_eq_append] at hz
      subst hz
      have h1 : (p :: (m ++ [z])).reverse = z :: (m.reverse ++ [p]) := by simp
      rw [h1, signedArea_eq_chain, signedArea_eq_chain, ← chain_reverse]
      have h2 : (p :: (m ++ [z]) ++ [p]).reverse = p :: z :: (m.reverse ++ [p]) := by simp
      have h3 : z :: (m.reverse ++ [p]) ++ [z] = (z :: m.reverse) ++ p :: [z] := by simp
      rw [h2, h3, chain_append]
      simp only [chain, List.cons_append]
      ring

end area

section orient
variable {K : Type} [Field K] [LinearOrder K] [IsStrictOrderedRing K]

/-- After orientation the polygon is counter-clockwise (non-negative signed area) and has the same
    absolute area: `|fx fy|` scaling law for the stored polygon, reflections included. -/
theorem C18_orient_ccw (l : List (Pt K)) :
    0 ≤ signedArea2 (orientCCW l) ∧ signedArea2 (orientCCW l) = |signedArea2 l| := by
  unfold orientCCW
  split_ifs with hneg
  · rw [C18_reverse_area, abs_of_neg hneg]
    exact ⟨(neg_pos.2 hneg).le, rfl⟩
  · exact ⟨not_lt.1 hneg, (abs_of_nonneg (not_lt.1 hneg)).symm⟩

/-- Scaling with both factors of the same sign (in particular both negative: a rotation by 180° combined with
    a stretch) keeps a counter-clockwise polygon counter-clockwise, so storing its image needs no reversal; with
    factors of opposite sign the image is clockwise and `orientCCW` reverses it. -/
theorem C18_scale_orientation (fx fy ox oy : K) (l : List (Pt K)) (hl : 0 < signedArea2 l) :
    (0 < fx * fy → orientCCW (l.map (Affine.apply ⟨fx, 0, 0, fy, ox - fx * ox, oy - fy * oy⟩))
        = l.map (Affine.apply ⟨fx, 0, 0, fy, ox - fx * ox, oy - fy * oy⟩)) ∧
    (fx * fy < 0 → orientCCW (l.map (Affine.apply ⟨fx, 0, 0, fy, ox - fx * ox, oy - fy * oy⟩))
        = (l.map (Affine.apply ⟨fx, 0, 0, fy, ox - fx * ox, oy - fy * oy⟩)).reverse) := by
  constructor
  · intro h
    unfold orientCCW
    rw [C18_scale_area, if_neg]
    exact not_lt.mpr (le_of_lt (mul_pos h hl))
  · intro h
    unfold orientCCW
    rw [C18_scale_area, if_pos]
    exact mul_neg_of_neg_of_pos h hl

omit [Field K] [IsStrictOrderedRing K] in
private theorem closeCurve_cons (p : Pt K) (rest : List (Pt K)) :
    closeCurve (p :: rest)
      = if p = (p :: rest).getLast (by simp) then p :: rest else p :: rest ++ [p] := by
  have hl : (p :: rest).getLast? = some ((p :: rest).getLast (by simp)) :=
    List.getLast?_eq_some_getLast (by simp)
  unfold closeCurve
  rw [hl]

/-- Stored vertices are closed: after `closeCurve` the first and last vertices coincide, and closing an
    already closed curve changes nothing. -/
theorem C18_close_closed (l : List (Pt K)) (h : l ≠ []) :
    (closeCurve l).head? = (closeCurve l).getLast? ∧ closeCurve (closeCurve l) = closeCurve l := by
  cases l with
  | nil => exact absurd rfl h
  | cons p rest =>
    by_cases hc : p = (p :: rest).getLast (by simp)
    · have e : closeCurve (p :: rest) = p :: rest := by
        rw [closeCurve_cons, if_pos hc]
      rw [e]
      refine ⟨?_, ?_⟩
      · rw [List.getLast?_eq_some_getLast (by simp), ← hc]; rfl
      · exact e
    · have e : closeCurve (p :: rest) = p :: (rest ++ [p]) := by
        rw [closeCurve_cons, if_neg hc]; rfl
      rw [e]
      refine ⟨?_, ?_⟩
      · have : p :: (rest ++ [p]) = (p :: rest) ++ [p] := rfl
        rw [this, List.getLast?_append]; simp
      · rw [closeCurve_cons, if_pos]
        simp [List.getLast_cons]

/-- Closing does not change the area. -/
theorem C18_close_area (l : List (Pt K)) : signedArea2 (closeCurve l) = signedArea2 l := by
  cases l with
  | nil => rfl
  | cons p rest =>
    rw [closeCurve_cons]
    split_ifs with hc
    · rfl
    · have h1 : p :: rest ++ [p] = p :: (rest ++ [p]) := rfl
      rw [h1, signedArea_eq_chain, signedArea_eq_chain]
      have h2 : p :: (rest ++ [p]) ++ [p] = (p :: rest) ++ p :: [p] := by simp
      rw [h2, chain_append]
      simp only [chain, cross]
      ring

end orient

section sets
/-- shapes with a membership predicate and the three set operations of the geometry kernel -/
structure Kernel (Shape P : Type) where
  mem : Shape → P → Prop
  union : Shape → Shape → Shape
  inter : Shape → Shape → Shape
  diff : Shape → Shape → Shape
  mem_union : ∀ a b p, mem (union a b) p ↔ mem a p ∨ mem b p
  mem_inter : ∀ a b p, mem (inter a b) p ↔ mem a p ∧ mem b p
  mem_diff : ∀ a b p, mem (diff a b) p ↔ mem a p ∧ ¬ mem b p

variable {Shape P : Type}

/-- a left fold whose step adds a disjunct / a conjunct, read through any predicate `M` on the accumulator -/
private theorem foldl_or_iff {α β : Type} (M : β → Prop) (Q : α → Prop) (f : β → α → β)
    (h : ∀ a b, M (f a b) ↔ M a ∨ Q b) (l : List α) (a : β) : M (l.foldl f a) ↔ M a ∨ ∃ b ∈ l, Q b := by
  induction l generalizing a with
  | nil => simp
  | cons b bs ih => rw [List.foldl_cons, ih, h]; simp only [List.mem_cons, exists_eq_or_imp, or_assoc]

private theorem foldl_and_iff {α β : Type} (M : β → Prop) (Q : α → Prop) (f : β → α → β)
    (h : ∀ a b, M (f a b) ↔ M a ∧ Q b) (l : List α) (a : β) : M (l.foldl f a) ↔ M a ∧ ∀ b ∈ l, Q b := by
  induction l generalizing a with
  | nil => simp
  | cons b bs ih => rw [List.foldl_cons, ih, h]; simp only [List.mem_cons, forall_eq_or_imp, and_assoc]

/-- `Polygon.union(*others)` folds to the left, one kernel call per operand -/
def unionAll (k : Kernel Shape P) (a : Shape) (others : List Shape) : Shape := others.foldl k.union a
def interAll (k : Kernel Shape P) (a : Shape) (others : List Shape) : Shape := others.foldl k.inter a
def diffAll (k : Kernel Shape P) (a : Shape) (others : List Shape) : Shape := others.foldl k.diff a

/-- Chains of unions / intersections / differences agree with point-wise membership of the operands. -/
theorem C18_union_chain (k : Kernel Shape P) (a : Shape) (others : List Shape) (p : P) :
    k.mem (unionAll k a others) p ↔ k.mem a p ∨ ∃ b ∈ others, k.mem b p :=
  foldl_or_iff (k.mem · p) (k.mem · p) k.union (fun a b => k.mem_union a b p) others a

theorem C18_inter_chain (k : Kernel Shape P) (a : Shape) (others : List Shape) (p : P) :
    k.mem (interAll k a others) p ↔ k.mem a p ∧ ∀ b ∈ others, k.mem b p :=
  foldl_and_iff (k.mem · p) (k.mem · p) k.inter (fun a b => k.mem_inter a b p) others a

theorem C18_diff_chain (k : Kernel Shape P) (a : Shape) (others : List Shape) (p : P) :
    k.mem (diffAll k a others) p ↔ k.mem a p ∧ ∀ b ∈ others, ¬ k.mem b p :=
  foldl_and_iff (k.mem · p) (¬ k.mem · p) k.diff (fun a b => k.mem_diff a b p) others a

/-- `Device.contains_points`: `film & ~logical_or.reduce(holes)` -/
def deviceContains (k : Kernel Shape P) (film : Shape) (holes : List Shape) (p : P) : Prop :=
  k.mem film p ∧ ¬ (holes.foldl (fun acc h => acc ∨ k.mem h p) False)

/-- A point is inside a device exactly when it is inside the film and outside every hole. -/
theorem C18_device_contains (k : Kernel Shape P) (film : Shape) (holes : List Shape) (p : P) :
    deviceContains k film holes p ↔ k.mem film p ∧ ∀ h ∈ holes, ¬ k.mem h p := by
  unfold deviceContains
  have h := foldl_or_iff (fun x : Prop => x) (k.mem · p) _ (fun _ _ => Iff.rfl) holes False
  rw [h, false_or, not_exists]
  simp only [not_and]

end sets

end Tdgl.C18
