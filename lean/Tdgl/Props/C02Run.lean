/-
  C02 lifted from one site to the whole adaptive update and to runs of updates (model: Tdgl/AdaptiveRun.lean,
  the composition the driver op `astep` replays against real `TDGLSolver.update` calls).

  "Whenever the update from step n to n+1 is answered, the new order parameter satisfies ψ' + z|ψ'|² = w at every site
   … it is never refused when a solution exists at every site":

    * `C02_adaptive_step_sound` — if the whole adaptive update is answered with the time step `dt`, then at EVERY site
      `r < n` the Euler answer solves the site equation whose `z`, `w` are built from the state the update was given and
      **that same `dt`** (the step finally accepted by the retry loop, not the tentative one); at a pinned site the
      order parameter the update returns is the terminal value instead (C06), everywhere else it is that solution;
    * `C02_adaptive_step_not_refused` — if every site equation has a solution at the tentative step, the update is
      answered, with exactly the tentative step (no retry, no raise);
    * `C02_adaptive_step_raise_means_unsolvable` — a raise means that at the last attempted step some site has no solution;
    * `C02_adaptive_run_sound` — for a run of `n` answered updates: the k-th recorded time step is the one the k-th
      update's site equations were solved with, for every k.
-/
import Mathlib.Algebra.Order.Field.Basic
import Mathlib.Analysis.SpecialFunctions.Trigonometric.Basic
import Mathlib.Tactic.Ring
import Mathlib.Tactic.Linarith
import Tdgl.Lemmas.RealInst
import Tdgl.Lemmas.Update
import Tdgl.Operators
import Tdgl.Update
import Tdgl.Adaptive
import Tdgl.AdaptiveRun
import Tdgl.Props.C02
import Tdgl.Props.C12

open Tdgl

namespace Tdgl.C02

/-- the `z` of site `r` for the state `s` and the step `dt` -/
noncomputable def zSite (gamma dt : ℝ) (s : MState ℝ) (r : ℕ) : Cx ℝ := zOf (s.psi r) (s.mu r) gamma dt

/-- the `w` of site `r` for the state `s`, the operators in use and the step `dt` -/
noncomputable def wSite (m : FVMesh ℝ) (fixed : ℕ → Bool) (U : ℕ → Cx ℝ) (eps : ℕ → ℝ) (gamma u dt : ℝ)
    (s : MState ℝ) (r : ℕ) : Cx ℝ :=
  wOf (s.psi r) (absSq (s.psi r)) (s.mu r) (eps r) gamma u dt (clapRow m fixed U s.psi r)

/-- what an answered update guarantees at site `r`: some `p` solves the site equation for the given state and
    the step `dt`; the returned order parameter is `p`, or the terminal value on a pinned site -/
def SiteOK (m : FVMesh ℝ) (fixed : ℕ → Bool) (tp : Option (Cx ℝ)) (U : ℕ → Cx ℝ) (eps : ℕ → ℝ) (gamma u dt : ℝ)
    (s s' : MState ℝ) (r : ℕ) : Prop :=
  ∃ p : Cx ℝ, Cx.add p (Cx.smul (Cx.normSq p) (zSite gamma dt s r)) = wSite m fixed U eps gamma u dt s r ∧
    s'.psi r = (match tp with
      | none => p
      | some v => if fixed r then v else p)

/-- **An answered whole update solves the site equation at every site, with the step it reports.** -/
theorem C02_adaptive_step_sound (m : FVMesh ℝ) (fixed : ℕ → Bool) (tp : Option (Cx ℝ)) (U : ℕ → Cx ℝ)
    (solve : (ℕ → ℝ) → (ℕ → ℝ)) (eps : ℕ → ℝ) (gamma u : ℝ) (mb : ℕ → ℝ) (o : AdaptOpts ℝ) (i : ℕ)
    (s s' : AState ℝ) (dt : ℝ)
    (h : adaptiveStep m fixed tp U solve eps gamma u mb o i s = some (dt, s')) :
    ∀ r, r < m.n → SiteOK m fixed tp U eps gamma u dt s.phys s'.phys r := by
  obtain ⟨-, out, he, rfl⟩ := (adaptiveStep_eq_some_iff ..).mp h
  intro r hr
  obtain ⟨⟨p, x⟩, hv, hout⟩ := eulerPinnedFn_site he hr
  refine ⟨p, (C02_sound _ _ p x hv).1, ?_⟩
  show (out r).1 = _
  rw [hout]
  unfold pinSite
  cases tp with
  | none => rfl
  | some v => split_ifs <;> rfl

/-- **Never refused when a solution exists at every site**: then the update is answered at the tentative step itself. -/
theorem C02_adaptive_step_not_refused (m : FVMesh ℝ) (fixed : ℕ → Bool) (tp : Option (Cx ℝ)) (U : ℕ → Cx ℝ)
    (solve : (ℕ → ℝ) → (ℕ → ℝ)) (eps : ℕ → ℝ) (gamma u : ℝ) (mb : ℕ → ℝ) (o : AdaptOpts ℝ) (i : ℕ) (s : AState ℝ)
    (hsol : ∀ r, r < m.n → ∃ p : Cx ℝ, Cx.add p (Cx.smul (Cx.normSq p) (zSite gamma s.ctl.tentative s.phys r))
        = wSite m fixed U eps gamma u s.ctl.tentative s.phys r) :
    ∃ s', adaptiveStep m fixed tp U solve eps gamma u mb o i s = some (s.ctl.tentative, s') := by
  have hok : (trialStep m fixed tp U eps gamma u s s.ctl.tentative).isSome = true := by
    refine (eulerPinnedFn_isSome ..).mpr fun r hr => ?_
    rw [Option.isSome_iff_ne_none]
    exact fun hnone => (C02_refuse_iff _ _).mp hnone (hsol r hr)
  obtain ⟨out, he⟩ := Option.isSome_iff_exists.mp hok
  exact ⟨_, (adaptiveStep_eq_some_iff ..).mpr ⟨eulerRetry_of_ok _ _ _ hok, out, he, rfl⟩⟩

/-- **A raise means a site without solution**: if the whole update raises, then for the last step attempted
    (`tentative · mult^k`, `k ≤ max_retries + 1`, or the tentative step itself with adaptivity off) — indeed for every
    step attempted — some site equation has no solution. -/
theorem C02_adaptive_step_raise_means_unsolvable (m : FVMesh ℝ) (fixed : ℕ → Bool) (tp : Option (Cx ℝ)) (U : ℕ → Cx ℝ)
    (solve : (ℕ → ℝ) → (ℕ → ℝ)) (eps : ℕ → ℝ) (gamma u : ℝ) (mb : ℕ → ℝ) (o : AdaptOpts ℝ) (i : ℕ) (s : AState ℝ)
    (h : adaptiveStep m fixed tp U solve eps gamma u mb o i s = none) :
    ∃ r, r < m.n ∧ ¬ ∃ p : Cx ℝ, Cx.add p (Cx.smul (Cx.normSq p) (zSite gamma s.ctl.tentative s.phys r))
        = wSite m fixed U eps gamma u s.ctl.tentative s.phys r := by
  by_contra hcon
  have hsol : ∀ r, r < m.n → ∃ p : Cx ℝ, Cx.add p (Cx.smul (Cx.normSq p) (zSite gamma s.ctl.tentative s.phys r))
      = wSite m fixed U eps gamma u s.ctl.tentative s.phys r := by
    intro r hr
    by_contra hn
    exact hcon ⟨r, hr, hn⟩
  obtain ⟨s', hs'⟩ := C02_adaptive_step_not_refused m fixed tp U solve eps gamma u mb o i s hsol
  rw [h] at hs'
  exact absurd hs' (by simp)

/-- **Runs.**  In a run of `n` answered adaptive updates the `k`-th recorded time step is the step the `k`-th update's
    site equations were solved with: there are states `a` (given to update `i + k`) and `b` (returned by it) with
    `adaptiveStep (i+k) a = (dts[k], b)`, hence `SiteOK … dts[k] a b r` at every site. -/
theorem C02_adaptive_run_sound (m : FVMesh ℝ) (fixed : ℕ → Bool) (tp : Option (Cx ℝ)) (U : ℕ → Cx ℝ)
    (solve : (ℕ → ℝ) → (ℕ → ℝ)) (eps : ℕ → ℝ) (gamma u : ℝ) (mb : ℕ → ℝ) (o : AdaptOpts ℝ)
    (n i : ℕ) (s s' : AState ℝ) (dts : List ℝ)
    (h : adaptiveRun m fixed tp U solve eps gamma u mb o n i s = some (dts, s')) :
    dts.length = n ∧ ∀ k, (hk : k < dts.length) → ∃ a b : AState ℝ,
      adaptiveStep m fixed tp U solve eps gamma u mb o (i + k) a = some (dts[k], b) ∧
      ∀ r, r < m.n → SiteOK m fixed tp U eps gamma u dts[k] a.phys b.phys r := by
  induction n generalizing i s dts with
  | zero =>
    obtain ⟨rfl, -⟩ := Prod.mk.inj (Option.some.inj h)
    exact ⟨rfl, fun k hk => absurd hk (by simp)⟩
  | succ n ih =>
    obtain ⟨dt, s1, dts0, hstep, hr, rfl⟩ := (adaptiveRun_succ_eq_some_iff ..).mp h
    obtain ⟨hlen, hall⟩ := ih (i + 1) s1 dts0 hr
    refine ⟨by rw [List.length_cons, hlen], fun k hk => ?_⟩
    cases k with
    | zero =>
      exact ⟨s, s1, hstep, C02_adaptive_step_sound m fixed tp U solve eps gamma u mb o i s s1 dt hstep⟩
    | succ k =>
      obtain ⟨a, b, hab, hsite⟩ := hall k (Nat.lt_of_succ_lt_succ hk)
      exact ⟨a, b, by rw [show i + (k + 1) = i + 1 + k by omega]; exact hab, hsite⟩

end Tdgl.C02
