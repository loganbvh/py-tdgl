/-
  C01 (acceptance under rounding) — every balanced assignment of currents is accepted by the repaired test
  `|Σ I| ≤ 1e-9 · max|I|`, in the standard model of floating-point arithmetic.

  Intended (exactly balanced) values `d t`, `Σ d = 0`.  What the validator sees are floats
  `x t = d t · (1 + ρ t)` (decimal input, scaling by `J_scale`: relative error `|ρ t| ≤ u`), summed left to
  right with a relative error `|δ k| ≤ u` per addition, `u = 2⁻⁵³`.  (Python ≥ 3.12 sums floats with
  compensation, which only makes the error smaller; the plain recursive sum is the conservative model.)

  The bound is proved for any `n` and `u` with `2 n u ≤ 1` (`flSum_balanced`); `n ≤ 1000`, `u ≤ 2⁻⁵³` and
  `Σ|x| ≤ n · max|x|` enter at the last step.
-/
import Mathlib.Algebra.BigOperators.Group.Finset.Basic
import Mathlib.Algebra.Order.BigOperators.Ring.Finset
import Mathlib.Algebra.Order.Field.Power
import Mathlib.Data.Real.Basic
import Mathlib.Tactic.Ring
import Mathlib.Tactic.Linarith
import Mathlib.Tactic.Positivity
import Mathlib.Tactic.NormNum
import Mathlib.Tactic.GCongr
import Mathlib.Tactic.LinearCombination

open Finset

namespace Tdgl.C01

/-- recursive floating-point summation in the standard model: `fl(a + b) = (a + b)(1 + δ)` -/
noncomputable def flSum (x δ : ℕ → ℝ) : ℕ → ℝ
  | 0 => 0
  | k+1 => (flSum x δ k + x k) * (1 + δ k)

/-- the largest magnitude among the first `n` values -/
noncomputable def maxAbsTo (x : ℕ → ℝ) : ℕ → ℝ
  | 0 => 0
  | k+1 => max (maxAbsTo x k) |x k|

/-- Error bound of recursive summation: `|fl(Σ x) − Σ x| ≤ ((1+u)^n − 1) · Σ |x|`. -/
theorem C01_flSum_error (n : ℕ) (x δ : ℕ → ℝ) (u : ℝ) (hu : 0 ≤ u) (hδ : ∀ k, k < n → |δ k| ≤ u) :
    |flSum x δ n - ∑ t ∈ range n, x t| ≤ ((1 + u) ^ n - 1) * ∑ t ∈ range n, |x t| := by
  induction n with
  | zero => simp [flSum]
  | succ k ih =>
    have ih := ih fun j hj => hδ j (Nat.lt_succ_of_lt hj)
    have hδk := hδ k (Nat.lt_succ_self k)
    have hP : 1 ≤ (1 + u) ^ k := one_le_pow₀ (le_add_of_nonneg_right hu)
    have hS : |∑ t ∈ range k, x t| ≤ ∑ t ∈ range k, |x t| := abs_sum_le_sum_abs _ _
    rw [sum_range_succ, sum_range_succ, pow_succ, flSum]
    generalize (∑ t ∈ range k, x t) = S at *
    generalize (∑ t ∈ range k, |x t|) = T at *
    generalize flSum x δ k = F at *
    generalize (1 + u) ^ k = P at *
    -- the old error is amplified by `1 + δ`, and the new addition contributes `δ (S + x)`
    calc |(F + x k) * (1 + δ k) - (S + x k)|
        = |(F - S) * (1 + δ k) + δ k * (S + x k)| := by ring_nf
      _ ≤ |F - S| * |1 + δ k| + |δ k| * |S + x k| := by
          rw [← abs_mul, ← abs_mul]; exact abs_add_le _ _
      _ ≤ (P - 1) * T * (1 + u) + u * (T + |x k|) := by
          gcongr
          · exact mul_nonneg (sub_nonneg.2 hP) ((abs_nonneg _).trans hS)
          · exact (abs_add_le _ _).trans (by rw [abs_one]; gcongr)
          · exact (abs_add_le _ _).trans (by gcongr)
      _ ≤ (P * (1 + u) - 1) * (T + |x k|) := by
          have : 0 ≤ (P - 1) * (1 + u) * |x k| := by
            have := sub_nonneg.2 hP
            positivity
          linear_combination this


private lemma maxAbsTo_nonneg (x : ℕ → ℝ) : ∀ n, 0 ≤ maxAbsTo x n
  | 0 => le_refl _
  | _+1 => le_max_of_le_right (abs_nonneg _)

private lemma le_maxAbsTo (x : ℕ → ℝ) : ∀ n t, t < n → |x t| ≤ maxAbsTo x n
  | k+1, t, h => by
    rcases Nat.lt_succ_iff_lt_or_eq.mp h with h | rfl
    · exact le_max_of_le_left (le_maxAbsTo x k t h)
    · exact le_max_right _ _

theorem sum_abs_le_maxAbsTo (x : ℕ → ℝ) (n : ℕ) : ∑ t ∈ range n, |x t| ≤ n * maxAbsTo x n := by
  simpa using sum_le_sum fun t ht => le_maxAbsTo x n t (mem_range.mp ht)

/-- `(1 + u)^k ≤ 1 + 2 k u` as long as `2 k u ≤ 1` -/
private lemma pow_le_lin (u : ℝ) (hu : 0 ≤ u) :
    ∀ k : ℕ, 2 * (k : ℝ) * u ≤ 1 → (1 + u) ^ k ≤ 1 + 2 * k * u
  | 0, _ => by simp
  | k+1, h => by
    push_cast at h ⊢
    have hk : 2 * (k : ℝ) * u ≤ 1 := by linear_combination h + 2 * hu
    have ih := pow_le_lin u hu k hk
    rw [pow_succ]
    -- `(1 + 2ku)(1 + u) = 1 + 2ku + u + (2ku) u ≤ 1 + 2ku + 2u`
    linear_combination (1 + u) * ih + u * hk

/-- Inputs that are an exactly balanced assignment up to one rounding each (`x = d (1 + ρ)`, `Σ d = 0`),
    summed in floating point: `|fl(Σ x)| ≤ 2 (n + 1) u · Σ |x|`.  The summation error is at most `2 n u Σ|x|`
    (`C01_flSum_error`), and the exact sum `Σ x = Σ d ρ` at most `2 u Σ|x|`. -/
theorem flSum_balanced (n : ℕ) (d ρ δ : ℕ → ℝ) (u : ℝ) (hu : 0 ≤ u) (hu2 : u ≤ 1 / 2)
    (hnu : 2 * (n : ℝ) * u ≤ 1)
    (hρ : ∀ t, t < n → |ρ t| ≤ u) (hδ : ∀ k, k < n → |δ k| ≤ u) (hbal : ∑ t ∈ range n, d t = 0) :
    |flSum (fun t => d t * (1 + ρ t)) δ n|
      ≤ 2 * (n + 1) * u * ∑ t ∈ range n, |d t * (1 + ρ t)| := by
  set x : ℕ → ℝ := fun t => d t * (1 + ρ t) with hx
  have hT : 0 ≤ ∑ t ∈ range n, |x t| := sum_nonneg fun t _ => abs_nonneg _
  -- `|d| ≤ 2 |x|` since `|1 + ρ| ≥ 1 - u ≥ 1/2`
  have hd : ∀ t ∈ range n, |d t * ρ t| ≤ 2 * u * |x t| := fun t ht => by
    have hr := abs_le.mp (hρ t (mem_range.mp ht))
    have h1 : 1 / 2 ≤ |1 + ρ t| := by rw [abs_of_nonneg] <;> linarith
    calc |d t * ρ t| = |d t| * |ρ t| := abs_mul _ _
      _ ≤ |d t| * (u * (2 * |1 + ρ t|)) := by
          gcongr
          exact (hρ t (mem_range.mp ht)).trans (le_mul_of_one_le_right hu (by linarith))
      _ = 2 * u * |x t| := by rw [hx, abs_mul]; ring
  have hX : |∑ t ∈ range n, x t| ≤ 2 * u * ∑ t ∈ range n, |x t| := by
    have : ∑ t ∈ range n, x t = ∑ t ∈ range n, d t * ρ t := by
      rw [← zero_add (∑ t ∈ range n, d t * ρ t), ← hbal, ← sum_add_distrib]
      exact sum_congr rfl fun t _ => mul_add _ _ _ |>.trans (by rw [mul_one])
    rw [this, mul_sum]
    exact (abs_sum_le_sum_abs _ _).trans (sum_le_sum hd)
  have hE : |flSum x δ n - ∑ t ∈ range n, x t| ≤ 2 * n * u * ∑ t ∈ range n, |x t| :=
    (C01_flSum_error n x δ u hu hδ).trans
      (mul_le_mul_of_nonneg_right (by linarith [pow_le_lin u hu n hnu]) hT)
  calc |flSum x δ n| = |(flSum x δ n - ∑ t ∈ range n, x t) + ∑ t ∈ range n, x t| := by rw [sub_add_cancel]
    _ ≤ 2 * n * u * ∑ t ∈ range n, |x t| + 2 * u * ∑ t ∈ range n, |x t| := (abs_add_le _ _).trans (add_le_add hE hX)
    _ = 2 * (n + 1) * u * ∑ t ∈ range n, |x t| := by ring

/-- Balanced currents are accepted under rounding: for up to 1000 terminals, inputs that are exactly
    balanced up to one rounding each, summed in floating point, pass the test `|Σ| ≤ 1e-9 · max|I|`. -/
theorem C01_balanced_accepted_fp (n : ℕ) (hn : n ≤ 1000) (d ρ δ : ℕ → ℝ) (u : ℝ) (hu : 0 ≤ u)
    (hu' : u ≤ (2 : ℝ) ^ (-(53 : ℤ)))
    (hρ : ∀ t, t < n → |ρ t| ≤ u) (hδ : ∀ k, k < n → |δ k| ≤ u) (hbal : ∑ t ∈ range n, d t = 0) :
    |flSum (fun t => d t * (1 + ρ t)) δ n| ≤ (1e-9 : ℝ) * maxAbsTo (fun t => d t * (1 + ρ t)) n := by
  have hN : (n : ℝ) ≤ 1000 := by exact_mod_cast hn
  have hM := maxAbsTo_nonneg (fun t => d t * (1 + ρ t)) n
  -- `2 (n + 1) u n ≤ 2 · 1001 · 2⁻⁵³ · 1000 < 2.3e-10`
  calc |flSum (fun t => d t * (1 + ρ t)) δ n|
      ≤ 2 * (n + 1) * u * ∑ t ∈ range n, |d t * (1 + ρ t)| :=
        flSum_balanced n d ρ δ u hu (hu'.trans (by norm_num)) (by
          calc 2 * (n : ℝ) * u ≤ 2 * 1000 * (2 : ℝ) ^ (-(53 : ℤ)) := by gcongr
            _ ≤ 1 := by norm_num) hρ hδ hbal
    _ ≤ 2 * (1000 + 1) * (2 : ℝ) ^ (-(53 : ℤ)) * (1000 * maxAbsTo (fun t => d t * (1 + ρ t)) n) := by
        gcongr
        exact (sum_abs_le_maxAbsTo _ n).trans (by gcongr)
    _ ≤ (1e-9 : ℝ) * maxAbsTo (fun t => d t * (1 + ρ t)) n := by
        rw [← mul_assoc]; gcongr; norm_num

end Tdgl.C01
