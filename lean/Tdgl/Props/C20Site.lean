/-
  C20 — the edge → site reconstruction that every field computed from a solution starts with
  (`Mesh.get_quantity_on_site`, model `onSite` in Tdgl/Fields.lean): it is linear in the edge quantity, maps
  the zero current to zero, and the value at a site depends only on the edges that end there.
-/
import Mathlib.Algebra.BigOperators.Field
import Mathlib.Algebra.Field.Basic
import Mathlib.Tactic.Ring
import Mathlib.Tactic.FieldSimp
import Tdgl.Fields
import Tdgl.Lemmas.Sums

open Tdgl

namespace Tdgl.C20

variable {K : Type} [Field K]

theorem C20_onsite_linear (E : ℕ) (e0 e1 : ℕ → ℕ) (dir q q' : ℕ → K) (a b : K) (i : ℕ) :
    onSite E e0 e1 dir (fun e => a * q e + b * q' e) i
      = a * onSite E e0 e1 dir q i + b * onSite E e0 e1 dir q' i := by
  unfold onSite
  rw [sumTo_lin (fun e x => if e0 e = i then x * dir e else 0) (by intros; split_ifs <;> ring),
    sumTo_lin (fun e x => if e1 e = i then x * dir e else 0) (by intros; split_ifs <;> ring)]
  ring

theorem C20_onsite_zero (E : ℕ) (e0 e1 : ℕ → ℕ) (dir : ℕ → K) (i : ℕ) :
    onSite E e0 e1 dir (fun _ => 0) i = 0 := by
  have := C20_onsite_linear E e0 e1 dir (fun _ => 0) (fun _ => 0) 0 0 i
  simpa using this

/-- the value at site `i` only depends on the edge quantity on the edges incident to `i` -/
theorem C20_onsite_local (E : ℕ) (e0 e1 : ℕ → ℕ) (dir q q' : ℕ → K) (i : ℕ)
    (h : ∀ e, e < E → (e0 e = i ∨ e1 e = i) → q e = q' e) :
    onSite E e0 e1 dir q i = onSite E e0 e1 dir q' i := by
  unfold onSite
  simp only [sumTo_eq]
  have h0 : (Finset.sum (Finset.range E) fun e => if e0 e = i then q e * dir e else 0)
      = (Finset.sum (Finset.range E) fun e => if e0 e = i then q' e * dir e else 0) := by
    refine Finset.sum_congr rfl fun e he => ?_
    split_ifs with hh
    · rw [h e (Finset.mem_range.mp he) (Or.inl hh)]
    · rfl
  have h1 : (Finset.sum (Finset.range E) fun e => if e1 e = i then q e * dir e else 0)
      = (Finset.sum (Finset.range E) fun e => if e1 e = i then q' e * dir e else 0) := by
    refine Finset.sum_congr rfl fun e he => ?_
    split_ifs with hh
    · rw [h e (Finset.mem_range.mp he) (Or.inr hh)]
    · rfl
  rw [h0, h1]

end Tdgl.C20
