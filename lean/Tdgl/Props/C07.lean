/-
  C07 — mesh geometry is the Delaunay/Voronoi dual of the device domain.   Model: Tdgl/Geometry.lean.
  What is proved is the geometry the repo computes itself (circumcentres, kites, edge geometry, the
  Euler relation bookkeeping); the triangulation comes from the external mesher and is validated at run time.
  The computations are in Tdgl/Lemmas/Triangle.lean.
-/
import Mathlib.Algebra.Order.Field.Basic
import Mathlib.Tactic.Ring
import Tdgl.Geometry
import Tdgl.Lemmas.Triangle

open Tdgl

namespace Tdgl.C07

variable {K : Type} [Field K]

/-- For a non-degenerate triangle the coded circumcentre is equidistant from the three vertices
    (it is the Voronoi vertex of the triangle). -/
theorem C07_circumcentre_equidistant (A B C : Pt K) (h : triArea2 A B C ≠ 0) (h2 : (2 : K) ≠ 0) :
    dist2 (circumcentre A B C) A = dist2 (circumcentre A B C) B ∧
    dist2 (circumcentre A B C) A = dist2 (circumcentre A B C) C :=
  have hO := circumcentre_atOffset A B C h h2
  ⟨hO.dist2_eq, hO.dist2_eq_third (ccOffset_mul A B C h h2)⟩

/-- The circumcentre does not depend on which vertex is listed first (cyclic relabelling): both are
    equidistant from the three vertices, and there is only one such point. -/
theorem C07_circumcentre_cyclic (A B C : Pt K) (h : triArea2 A B C ≠ 0) (h2 : (2 : K) ≠ 0) :
    circumcentre A B C = circumcentre B C A := by
  obtain ⟨e1, e2⟩ := C07_circumcentre_equidistant B C A (by rwa [triArea2_cyclic]) h2
  exact eq_of_equidistant A B C _ _ h h2 (C07_circumcentre_equidistant A B C h h2)
    ⟨e2.symm, e2.symm.trans e1⟩

/-- The three kites (site, two edge midpoints, circumcentre) of a triangle tile it: their signed areas
    add up to the triangle's, so the cell areas sum to the area of the triangulated domain. -/
theorem C07_kites_tile_triangle (A B C : Pt K) (h : triArea2 A B C ≠ 0) (h2 : (2 : K) ≠ 0) :
    kite2 A B C + kite2 B C A + kite2 C A B = triArea2 A B C := by
  have hb : triArea2 B C A ≠ 0 := by rwa [triArea2_cyclic]
  simp only [kite2, ← C07_circumcentre_cyclic B C A hb h2, ← C07_circumcentre_cyclic A B C h h2]
  exact half_triangles_tile A B C _ h2

/-- The dual edge lies on the perpendicular bisector: the circumcentres of the triangles on both sides of
    an edge and the edge midpoint are each equidistant from the edge's two end points. -/
theorem C07_dual_on_bisector (A B C : Pt K) (h : triArea2 A B C ≠ 0) (h2 : (2 : K) ≠ 0) :
    dist2 (circumcentre A B C) A = dist2 (circumcentre A B C) B ∧ dist2 (mid A B) A = dist2 (mid A B) B :=
  ⟨(C07_circumcentre_equidistant A B C h h2).1, (mid_atOffset A B h2).dist2_eq⟩

/-- Edge geometry is that of the site pair: centre = midpoint, and the squared length is `d · d` with
    `d = r_j − r_i`; the midpoint splits the edge into two equal halves. -/
theorem C07_edge_geometry (A B : Pt K) (h2 : (2 : K) ≠ 0) :
    (mid A B).1 - A.1 = (B.1 - A.1) / 2 ∧ (mid A B).2 - A.2 = (B.2 - A.2) / 2 ∧
    dist2 A B = (B.1 - A.1) * (B.1 - A.1) + (B.2 - A.2) * (B.2 - A.2) ∧
    4 * dist2 (mid A B) A = dist2 A B := by
  obtain ⟨e1, e2⟩ := mid_sub_left A B h2
  refine ⟨e1, e2, by simp only [dist2]; ring, ?_⟩
  have h4 : (4 : K) = 2 * 2 := by norm_num
  simp only [dist2, e1, e2, div_mul_div_comm, ← add_div]
  rw [h4, mul_div_cancel₀ _ (mul_ne_zero h2 h2)]
  ring

/-- The kite of a vertex is split by the segment to the circumcentre into two right-angled triangles on
    the half edges: its (doubled, signed) area is `½ (AB × AO) + ½ (AO × AC)`, i.e. half base times
    the signed dual half-lengths — the quantity the hull-based cell area reproduces for
    locally Delaunay cells. -/
theorem C07_kite_formula (A B C : Pt K) (h2 : (2 : K) ≠ 0) :
    kite2 A B C = (triArea2 A B (circumcentre A B C) + triArea2 A (circumcentre A B C) C) / 2 := by
  rw [kite2, triArea2_mid_left _ _ _ h2, triArea2_mid_right _ _ _ h2, add_div]

end Tdgl.C07
