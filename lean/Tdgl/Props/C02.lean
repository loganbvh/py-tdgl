/-
  C02 — each step solves the discretised TDGL equation on the physical branch.
  Property theorems (interpretation `K := ℝ`), read off the characterisation of an answered site in
  `Tdgl.Lemmas.Site`.
-/
import Tdgl.Lemmas.RealInst
import Tdgl.Lemmas.Quadratic
import Tdgl.Lemmas.Site
import Tdgl.Lemmas.Sums
import Tdgl.Lemmas.Phase
import Tdgl.Step

open Tdgl

namespace Tdgl.C02

/-- `np.absolute(a)**2` is the squared modulus. -/
theorem C02_absSq_eq (a : Cx ℝ) : absSq a = Cx.normSq a := absSq_eq a

/-- A non-negative discriminant forces `2c+1 ≥ 1/2` (Cauchy–Schwarz), so the accepted branch
    never divides by zero and never yields a negative or NaN answer. -/
theorem C02_b_pos (z w : Cx ℝ) (h : 0 ≤ discOf z w) :
    1 / 2 ≤ 2 * (w.re * z.re + w.im * z.im) + 1 := by
  rw [discOf_eq] at h
  exact Quad.b_ge_half z.re z.im w.re w.im h

/-- Soundness: an answered update satisfies `ψ' + z|ψ'|² = w`, the reported `|ψ'|²` is the squared
    modulus of the reported `ψ'`, and it is non-negative. -/
theorem C02_sound (z w p : Cx ℝ) (x : ℝ) (h : solveSite z w = some (p, x)) :
    Cx.add p (Cx.smul (Cx.normSq p) z) = w ∧ x = Cx.normSq p ∧ 0 ≤ x := by
  obtain ⟨hp, rfl, -⟩ := (solveSite_eq_some_iff z w p x).mp h
  exact ⟨hp, rfl, Cx.normSq_nonneg p⟩

/-- Any solution of `p + z|p|² = w` makes the discriminant non-negative. -/
theorem C02_solution_disc_nonneg (z w p : Cx ℝ)
    (h : Cx.add p (Cx.smul (Cx.normSq p) z) = w) : 0 ≤ discOf z w := by
  rw [discOf_eq]
  exact Quad.disc_nonneg_of_root (Cx.normSq z) (bOf z w) (Cx.normSq w) (Cx.normSq p) (root_of_solution h)

/-- Refusal is exact: the site is refused iff `p + z|p|² = w` has no solution at all. -/
theorem C02_refuse_iff (z w : Cx ℝ) :
    solveSite z w = none ↔ ¬ ∃ p : Cx ℝ, Cx.add p (Cx.smul (Cx.normSq p) z) = w := by
  constructor
  · rintro hnone ⟨p, hp⟩
    have h1 := C02_solution_disc_nonneg z w p hp
    rw [discOf_eq] at h1
    exact absurd ((solveSite_none_iff z w).mp hnone) (not_lt.mpr h1)
  · intro hno
    cases hsol : solveSite z w with
    | none => rfl
    | some r => exact absurd ⟨r.1, (C02_sound z w r.1 r.2 hsol).1⟩ hno

/-- The physical branch: the answer is a root of `|z|²x² − (2c+1)x + |w|² = 0`, it is the smaller
    one (`2|z|²x ≤ 2c+1`, i.e. `x ≤` the other root), it is bounded by `4|w|²` uniformly in `z`
    (so it stays finite as `γ → 0` or `ψ → 0`), and for `z = 0` it is exactly `x = |w|²`, `ψ' = w`. -/
theorem C02_branch (z w p : Cx ℝ) (x : ℝ) (h : solveSite z w = some (p, x)) :
    Cx.normSq z * x * x - (2 * (w.re * z.re + w.im * z.im) + 1) * x + Cx.normSq w = 0 ∧
    2 * Cx.normSq z * x ≤ 2 * (w.re * z.re + w.im * z.im) + 1 ∧
    x ≤ 4 * Cx.normSq w ∧
    (z = ⟨0, 0⟩ → x = Cx.normSq w ∧ p = w) := by
  obtain ⟨hp, rfl, hsmall⟩ := (solveSite_eq_some_iff z w p _).mp h
  have hroot := root_of_solution hp
  refine ⟨hroot, hsmall, ?_, ?_⟩
  · -- |w|² = x (b − |z|²x) and b − |z|²x ≥ b/2 ≥ 1/4
    have hb : 1 / 2 ≤ bOf z w := C02_b_pos z w (C02_solution_disc_nonneg z w p hp)
    have ht : 0 ≤ bOf z w - Cx.normSq z * Cx.normSq p - 1 / 4 := by
      linear_combination (1 / 2) * hsmall + (1 / 2) * hb
    linear_combination 4 * mul_nonneg (Cx.normSq_nonneg p) ht - 4 * hroot
  · rintro rfl
    have hpw : p = w := by
      rw [← hp]
      apply Cx.ext' <;> simp [Cx.add, Cx.smul]
    exact ⟨by rw [hpw], hpw⟩

/-- The whole update is refused iff some site has no solution; otherwise every site is answered. -/
theorem C02_all_sites (n : Nat) (z w : Nat → Cx ℝ) :
    solveAll n z w = none ↔ ∃ i, i < n ∧ solveSite (z i) (w i) = none := by
  unfold solveAll
  constructor
  · intro h
    by_contra hcon
    push Not at hcon
    have : (List.range n).all (fun i => (solveSite (z i) (w i)).isSome) = true := by
      rw [List.all_eq_true]
      intro i hi
      have := hcon i (List.mem_range.mp hi)
      cases hs : solveSite (z i) (w i) with
      | none => exact absurd hs this
      | some _ => rfl
    rw [if_pos this] at h
    exact absurd h (by simp)
  · rintro ⟨i, hi, hnone⟩
    have : ¬ (List.range n).all (fun i => (solveSite (z i) (w i)).isSome) = true := by
      rw [List.all_eq_true]
      intro hall
      have := hall i (List.mem_range.mpr hi)
      rw [hnone] at this
      exact absurd this (by simp)
    rw [if_neg this]

/-- when answered, every site is answered and the list holds the per-site answers in site order -/
theorem C02_all_sites_values (n : Nat) (z w : Nat → Cx ℝ) (out : List (Cx ℝ × ℝ))
    (h : solveAll n z w = some out) :
    out.length = n ∧ ∀ i, i < n → ∃ v, solveSite (z i) (w i) = some v ∧ out[i]? = some v := by
  unfold solveAll at h
  split at h
  · rename_i hall
    rw [List.all_eq_true] at hall
    have hsome : ∀ i ∈ List.range n, solveSite (z i) (w i)
        = some ((solveSite (z i) (w i)).getD (⟨0, 0⟩, 0)) := by
      intro i hi
      have := hall i hi
      cases hs : solveSite (z i) (w i) with
      | none => rw [hs] at this; exact absurd this (by simp)
      | some v => simp
    have hout : out = (List.range n).map (fun i => (solveSite (z i) (w i)).getD (⟨0, 0⟩, 0)) := by
      rw [← Option.some.inj h]
      exact List.filterMap_eq_map_iff_forall_eq_some.mpr hsome
    subst hout
    refine ⟨by simp, ?_⟩
    intro i hi
    refine ⟨_, hsome i (List.mem_range.mpr hi), ?_⟩
    simp [hi]
  · exact absurd h (by simp)

/-- The documented update (docs/background.rst eq. `quad-1` ⇒ eq. `tdgl-num`): from
    `ψ' + z|ψ'|² = w` with `z`, `w` as documented and `u, dt ≠ 0`, one obtains
    `u/(dt √(1+γ²a)) [ψ' e^{iμdt} − ψ + (γ²/2)(|ψ'|² − a)ψ] = (ε−a)ψ + lap`,
    with `a = |ψ|²` the value passed by the caller. -/
theorem C02_docs_equation (psi p lap : Cx ℝ) (a mu eps gamma u dt : ℝ)
    (hu : u ≠ 0) (hdt : dt ≠ 0) (ha : 0 ≤ a)
    (h : Cx.add p (Cx.smul (Cx.normSq p) (zOf psi mu gamma dt)) = wOf psi a mu eps gamma u dt lap) :
    Cx.smul (u / (dt * Real.sqrt (1 + gamma * gamma * a)))
      (Cx.add (Cx.sub (Cx.mul p (Cx.conj (linkU mu dt))) psi)
        (Cx.smul ((gamma * gamma) / 2 * (Cx.normSq p - a)) psi))
      = Cx.add (Cx.smul (eps - a) psi) lap := by
  -- in ℂ: multiply `h` by `conj U` (`U conj U = 1`), then by `u/(dt √…)`, the inverse of the factor `dt/u·√…` in `w`
  have hR : Real.sqrt (1 + gamma * gamma * a) ≠ 0 :=
    (Real.sqrt_pos.mpr (add_pos_of_pos_of_nonneg one_pos (mul_nonneg (mul_self_nonneg gamma) ha))).ne'
  have hs : u / (dt * Real.sqrt (1 + gamma * gamma * a)) * (dt / u * Real.sqrt (1 + gamma * gamma * a)) = 1 := by
    field_simp
  have hU := toC_mul_conj_of_unit (Cx.normSq_expNegI (mu * dt))
  have hC := congrArg toC h
  simp only [wOf, zOf, linkU, toC_add, toC_mul, toC_smul, hasSqrt_real] at hC
  apply toC_injective
  simp only [linkU, toC_add, toC_sub, toC_mul, toC_smul, toC_conj]
  generalize u / (dt * Real.sqrt (1 + gamma * gamma * a)) = A at hs ⊢
  generalize dt / u * Real.sqrt (1 + gamma * gamma * a) = S at hs hC
  have hsC : (A : ℂ) * (S : ℂ) = 1 := by rw [← Complex.ofReal_mul, hs, Complex.ofReal_one]
  push_cast at hC ⊢
  linear_combination ((A : ℂ) * (starRingEnd ℂ) (toC (Cx.expNegI (mu * dt)))) * hC
    + (((eps : ℂ) - a) * toC psi + toC lap) * hsC
    - ((A : ℂ) * (((Cx.normSq p : ℝ) : ℂ) * ((gamma : ℂ) * gamma / 2) * toC psi - (a : ℂ) * ((gamma : ℂ) * gamma / 2) * toC psi
        - toC psi - (S : ℂ) * (((eps : ℂ) - a) * toC psi + toC lap))) * hU

/-! Non-vacuity: an accepted and a refused site exist. -/
example : ∃ p x, solveSite (⟨1/2, 1/4⟩ : Cx ℝ) ⟨1, -1/2⟩ = some (p, x) := by
  cases h : solveSite (⟨1/2, 1/4⟩ : Cx ℝ) ⟨1, -1/2⟩ with
  | some r => exact ⟨r.1, r.2, rfl⟩
  | none =>
    have := (solveSite_none_iff _ _).mp h
    unfold dOf bOf Cx.normSq at this
    norm_num at this

example : solveSite (⟨1, 0⟩ : Cx ℝ) ⟨-1, 0⟩ = none := by
  apply (solveSite_none_iff _ _).mpr
  unfold dOf bOf Cx.normSq
  norm_num

end Tdgl.C02
