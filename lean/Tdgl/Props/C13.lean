/-
  C13 — screening returns a self-consistent induced vector potential or fails.
  Model: Tdgl/Screening.lean.  Vector fields are elements of an arbitrary `K`-module `V`; any physics
  `phys`, any kernel `kern`, any error functional.  The theorems about `screenLoop` are those about the stateful
  loop `screenLoopS` (C13State.lean) read at a physics that ignores its state (`C13_stateless_is_special_case`).
-/
import Mathlib.Algebra.Order.Field.Basic
import Mathlib.Algebra.Module.Basic
import Mathlib.Algebra.Module.Pi
import Mathlib.Tactic.Ring
import Mathlib.Tactic.Module
import Mathlib.Tactic.Linarith
import Mathlib.Tactic.Common
import Tdgl.Screening
import Tdgl.Props.C13State

open Tdgl

namespace Tdgl.C13

/-- a screening-off step hands the induced potential on untouched, so any number of them does -/
theorem noScreen_iterate_snd {K S : Type} (phys : S → (ℕ → K) → S) (n : ℕ) (s : S) (A : ℕ → K) :
    ((fun p : S × (ℕ → K) => noScreenStep phys p.1 p.2)^[n] (s, A)).2 = A := by
  induction n with
  | zero => rfl
  | succ n ih =>
    rw [Function.iterate_succ_apply']
    exact ih

variable {K : Type} [Field K] [LinearOrder K] [IsStrictOrderedRing K]
variable {V : Type} [AddCommGroup V] [Module K V]

-- the section instances are part of the fixed theorem signatures; not every proof needs all of them
set_option linter.unusedSectionVars false

/-- The exact mismatch identity of one heavy-ball update: the stored iterate minus the kernel of the
    stored currents is `(1−β) v_prev − (1−α) dA` with `dA = new − A_prev`.  (This is what turns "relative
    change below tolerance at the last iteration" into "the stored potential reproduces the sum".) -/
theorem C13_mismatch_identity (alpha beta : K) (s : PolyakState V) (new : V) :
    (polyak alpha beta s new).A - new = (1 - beta) • s.v - (1 - alpha) • (new - s.A) := by
  simp only [polyak]
  module

/-- Component form for fields given as index functions. -/
theorem C13_mismatch_identity_components (alpha beta : K) (s : PolyakState (ℕ → K)) (new : ℕ → K) (i : ℕ) :
    (polyak alpha beta s new).A i - new i = (1 - beta) * s.v i - (1 - alpha) * (new i - s.A i) := by
  simp only [polyak, Pi.add_apply, Pi.sub_apply, Pi.smul_apply, smul_eq_mul]
  ring

/-- With `α = 1` and no drag memory (`v_prev = 0`) the update is plain fixed-point iteration. -/
theorem C13_polyak_plain (beta : K) (s : PolyakState V) (new : V) (h : s.v = 0) :
    (polyak (1 : K) beta s new).A = new := by
  simp [polyak, h]

/-- a converged run of the stateless loop is a converged run of the stateful loop whose physics ignores its
    state (`P := Unit`) -/
private theorem converged_lift {alpha beta tol : K} {maxIt : ℕ} {phys kern : V → V} {errOf : V → V → K}
    {fuel it : ℕ} {s : PolyakState V} {J0 : V} {err : Option K} {A J : V} {n : ℕ} {lastErr : Option K}
    (h : screenLoop alpha beta tol maxIt phys kern errOf fuel it s J0 err = .converged A J n lastErr) :
    screenLoopS alpha beta tol maxIt (fun (q : Unit) A => (q, phys A)) kern errOf fuel it () s J0 err
      = .converged () A J n lastErr := by
  rw [← C13_stateless_is_special_case (p := ())] at h
  split at h <;> cases h
  assumption

/-- An accepted step ends converged: the loop returns only when the error of the last executed
    iteration is below the tolerance (and at least one iteration has run). -/
theorem C13_exit (alpha beta tol : K) (maxIt : ℕ) (phys kern : V → V) (errOf : V → V → K) (fuel : ℕ)
    (s0 : PolyakState V) (J0 : V) (A J : V) (it : ℕ) (lastErr : Option K)
    (h : screenLoop alpha beta tol maxIt phys kern errOf fuel 0 s0 J0 none = .converged A J it lastErr) :
    0 < it ∧ ∃ e, lastErr = some e ∧ e < tol :=
  C13_stateful_exit (h := converged_lift h) ..

/-- ... and the returned pair is the state of the tested iteration: there is a previous state
    `(A_prev, v_prev)` such that `J = phys A_prev`, `A` is the heavy-ball update with `kern J`, and the
    error that was tested is the one of that update. -/
theorem C13_exit_state (alpha beta tol : K) (maxIt : ℕ) (phys kern : V → V) (errOf : V → V → K) (fuel : ℕ)
    (s0 : PolyakState V) (J0 : V) (A J : V) (it : ℕ) (lastErr : Option K)
    (h : screenLoop alpha beta tol maxIt phys kern errOf fuel 0 s0 J0 none = .converged A J it lastErr) :
    ∃ sp : PolyakState V, J = phys sp.A ∧ A = (polyak alpha beta sp (kern J)).A ∧
      lastErr = some (errOf (kern J - sp.A) A) := by
  obtain ⟨_, sp, hJ, hA⟩ := C13_stateful_exit_state (h := converged_lift h) ..
  exact ⟨sp, (Prod.mk.inj hJ).2, hA⟩

/-- Failure to converge raises: if the error never drops below the tolerance the result is `failed`
    after `maxIt + 1` iterations — never an unconverged step. -/
theorem C13_no_silent_nonconvergence (alpha beta tol : K) (maxIt : ℕ) (phys kern : V → V)
    (errOf : V → V → K) (s0 : PolyakState V) (J0 : V) (hbad : ∀ dA A, ¬ errOf dA A < tol) :
    screenLoop alpha beta tol maxIt phys kern errOf (maxIt + 3) 0 s0 J0 none = .failed (maxIt + 1) := by
  rw [← C13_stateless_is_special_case (p := ()),
    C13_stateful_no_silent_nonconvergence alpha beta tol maxIt _ kern errOf () s0 J0 hbad]

/-- With screening disabled the induced vector potential is whatever it was initially — identically zero
    from a fresh start — after any number of steps. -/
theorem C13_disabled_zero {S : Type} (phys : S → (ℕ → K) → S) (n : ℕ) (s : S) :
    ((fun p : S × (ℕ → K) => noScreenStep phys p.1 p.2)^[n] (s, fun _ => 0)).2 = fun _ => 0 := by
  exact noScreen_iterate_snd phys n s _

end Tdgl.C13
