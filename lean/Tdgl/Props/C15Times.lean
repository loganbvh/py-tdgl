/-
  C15 — "cancellation returns a usable partial solution": the frames of a run stopped inside an update carry exactly the labels
  `0, k, 2k, … ≤ M` plus `M` (the step at which it stopped) when `M` is off the grid — so, with `C05_times_of_steps`, the times
  the partial solution reports (computed from its `M` per-step records, with no reference to the requested solve time) are
  exactly the times of the frames the file holds.                Models: Tdgl/Handler.lean, Tdgl/Reader.lean.
-/
import Mathlib.Data.List.Basic
import Mathlib.Order.Basic
import Mathlib.Tactic.Common
import Tdgl.Runner
import Tdgl.Handler
import Tdgl.Reader
import Tdgl.Lemmas.Stage
import Tdgl.Props.C15
import Tdgl.Props.C05Reader

open Tdgl

namespace Tdgl.C15

variable {K S R : Type} [Add K] [LE K] [DecidableLE K] [OfNat K 0]

/-- the labels a truthful output of a recorded stage that ended at step `M` carries -/
def labelsUpTo (k M : ℕ) : List ℕ :=
  ((List.range (M+1)).filter (fun i => i % k = 0)) ++ (if M % k = 0 then [] else [M])

omit [Add K] [LE K] [DecidableLE K] [OfNat K 0] in
private theorem mkFrame_step (i : ℕ) (t : K) (s : S) (buf : List R) : (mkFrame i t s buf).step = i := rfl

/-- with no faults in the frame writer, a stage that was cancelled or finished at step `e.steps` has lost no frame -/
private theorem stopped_recorded (upd : S → ℕ → K → K × S × R) (flt : Faults) (hsave : ∀ j, flt.save j = none)
    (stage : ℕ) (save : Bool) (k : ℕ) (T : K) (fuel : ℕ) (s0 : S) (e : StageEnd K S R) (saves : ℕ)
    (h : runStageF upd flt stage save k T fuel 0 0 s0 [] [] 0 = .cancelled e saves ∨
         runStageF upd flt stage save k T fuel 0 0 s0 [] [] 0 = .finished e saves) :
    Recorded upd s0 save (gridBelow k e.steps ++ [e.steps]) e.steps [] e.frames := by
  have hs := runStageF_spec upd flt stage save k T fuel s0
  rcases h with h | h <;> rw [h] at hs
  · rcases hs.2 with ⟨_, _, hr⟩ | ⟨_, _, ⟨j, hj⟩, _⟩
    · exact hr
    · rw [hsave] at hj; cases hj
  · exact hs.2.2

/-- **Labels of a stopped run.**  With faults in the updates only (a Ctrl-C or an error at any update of the stage), a recorded
    stage that is cancelled — or finishes — at step `M` has written exactly the frames labelled `0, k, 2k, … ≤ M`, and `M`. -/
theorem C15_stopped_run_labels (upd : S → ℕ → K → K × S × R) (flt : Faults) (hsave : ∀ j, flt.save j = none)
    (stage k : ℕ) (T : K) (fuel : ℕ) (s0 : S) (e : StageEnd K S R) (saves : ℕ)
    (h : runStageF upd flt stage true k T fuel 0 0 s0 [] [] 0 = .cancelled e saves ∨
         runStageF upd flt stage true k T fuel 0 0 s0 [] [] 0 = .finished e saves) :
    e.frames.map (·.step) = labelsUpTo k e.steps :=
  (stopped_recorded upd flt hsave stage true k T fuel s0 e saves h).labels.trans (gridBelow_succ_append k e.steps).symm

/-- **Whatever faults occur — in the updates and in the frame writer — every frame of the output sits on the save grid, except
    possibly the last one of a run that finished or was cancelled off the grid** (its label is then the step the run stopped
    at).  With `C15_frames_truthful` and `C15_frames_increasing`: the output of any stopped run is a strictly increasing
    selection of grid points of the trajectory, plus at most the stopping point. -/
theorem C15_frames_on_grid (upd : S → ℕ → K → K × S × R) (flt : Faults) (stage : ℕ) (save : Bool) (k : ℕ) (T : K)
    (fuel : ℕ) (s0 : S) (f : Frame K S R)
    (hf : f ∈ outcomeFrames (runStageF upd flt stage save k T fuel 0 0 s0 [] [] 0)) :
    f.step % k = 0 ∨ ∃ e saves, (runStageF upd flt stage save k T fuel 0 0 s0 [] [] 0 = .finished e saves ∨
      runStageF upd flt stage save k T fuel 0 0 s0 [] [] 0 = .cancelled e saves) ∧ f.step = e.steps := by
  obtain ⟨L, n, buf, hr, -, hL⟩ := (runStageF_spec upd flt stage save k T fuel s0).frames
  exact hL _ (hr.mem_labels hf).2

/-- **Bookkeeping of a stopped run.**  With faults in the updates only, the per-step records read back from the frames of a
    stage cancelled (or finished) at step `M` are exactly one record per step `0 … M − 1`, in order: nothing of the steps taken
    before the stop is lost, nothing is recorded twice. -/
theorem C15_stopped_run_records (upd : S → ℕ → K → K × S × R) (flt : Faults) (hsave : ∀ j, flt.save j = none)
    (stage k : ℕ) (T : K) (fuel : ℕ) (s0 : S) (e : StageEnd K S R) (saves : ℕ)
    (h : runStageF upd flt stage true k T fuel 0 0 s0 [] [] 0 = .cancelled e saves ∨
         runStageF upd flt stage true k T fuel 0 0 s0 [] [] 0 = .finished e saves) :
    allRecs e.frames = (List.range e.steps).map (recAt upd s0) :=
  (List.append_nil _).symm.trans ((stopped_recorded upd flt hsave stage true k T fuel s0 e saves h).recs rfl)

variable [LT K] [DecidableLT K]

/-- **The partial solution's times are its frames' times.**  For a stage cancelled (or finished) at step `M` with faults in the
    updates only: `Solution.times` computed from the `M` per-step records equals the list of the times of the frames written. -/
theorem C15_partial_times (upd : S → ℕ → K → K × S × R) (flt : Faults) (hsave : ∀ j, flt.save j = none)
    (stage k : ℕ) (T : K) (fuel : ℕ) (s0 : S) (e : StageEnd K S R) (saves : ℕ)
    (h : runStageF upd flt stage true k T fuel 0 0 s0 [] [] 0 = .cancelled e saves ∨
         runStageF upd flt stage true k T fuel 0 0 s0 [] [] 0 = .finished e saves) :
    solutionTimes k (C05.dtsOf upd s0 e.steps) = e.frames.map (·.time) := by
  have hr := stopped_recorded upd flt hsave stage true k T fuel s0 e saves h
  rw [hr.map_time, hr.labels, C05.C05_times_of_steps]
  exact congrArg _ (gridBelow_succ_append k e.steps)

/-- non-vacuity: a run saving every 4 steps, cancelled by a Ctrl-C inside update 4 (a grid step — the case in which a rule based
    on the solve time reports a time no frame has): it is cancelled at step 4 and its frames carry the labels 0 and 4 -/
example : ∃ e saves, runStageF (K := ℕ) (S := ℕ) (R := Unit) (fun s _ _ => (1, s + 1, ()))
      ⟨fun _ i => if i = 4 then some .interrupt else none, fun _ => none⟩ 1 true 4 10 20 0 0 0 [] [] 0 = .cancelled e saves ∧
    e.steps = 4 ∧ e.frames.map (·.step) = [0, 4] :=
  ⟨_, _, rfl, rfl, rfl⟩

end Tdgl.C15
