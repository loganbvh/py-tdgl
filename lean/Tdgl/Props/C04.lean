/-
  C04 — observables are invariant under gauge transformations.   (K := ℝ)
  Gauge transformation by an arbitrary site function χ:
      θ'_e = θ_e + χ_{e1} − χ_{e0},     ψ'_r = e^{iχ_r} ψ_r.
-/
import Mathlib.Analysis.SpecialFunctions.Trigonometric.Basic
import Mathlib.Tactic.Ring
import Mathlib.Tactic.Linarith
import Mathlib.Tactic.LinearCombination
import Tdgl.Lemmas.Sums
import Tdgl.Lemmas.RealInst
import Tdgl.Lemmas.Phase
import Tdgl.Lemmas.Gauge
import Tdgl.Lemmas.Update
import Tdgl.Operators
import Tdgl.Update

open Finset Tdgl

namespace Tdgl.C04

/-- `e^{ix}` as a pair -/
noncomputable def expI (x : ℝ) : Cx ℝ := ⟨Real.cos x, Real.sin x⟩

/-- gauge-transformed link exponents -/
def gaugeTheta (m : FVMesh ℝ) (theta chi : ℕ → ℝ) (e : ℕ) : ℝ := theta e + chi (m.e1 e) - chi (m.e0 e)

/-- gauge-transformed order parameter -/
noncomputable def gaugePsi (chi : ℕ → ℝ) (psi : ℕ → Cx ℝ) (r : ℕ) : Cx ℝ := Cx.mul (expI (chi r)) (psi r)

/-! ### `e^{ix}` is a unit, and the transformed links are the gauge-related links of `Tdgl.Lemmas.Phase` -/

theorem normSq_expI (x : ℝ) : Cx.normSq (expI x) = 1 := by
  simp only [Cx.normSq, expI, ← sq]
  exact Real.cos_sq_add_sin_sq x

theorem expNegI_mul_expI (x a : ℝ) : Cx.mul (Cx.expNegI x) (expI a) = expI (a - x) := by
  apply Cx.ext' <;>
    simp only [Cx.mul, Cx.expNegI, expI, hasCos_real, hasSin_real, Real.cos_sub, Real.sin_sub] <;> ring

theorem expI_mul_expNegI (b y : ℝ) : Cx.mul (expI b) (Cx.expNegI y) = expI (b - y) := by
  rw [Cx.mul_comm, expNegI_mul_expI]

/-- `e^{-i(θ+χ₁-χ₀)} e^{iχ₁} = e^{iχ₀} e^{-iθ}` -/
theorem link_gauge (m : FVMesh ℝ) (theta chi : ℕ → ℝ) (e : ℕ) :
    Cx.mul (linkOf (gaugeTheta m theta chi) e) (expI (chi (m.e1 e)))
      = Cx.mul (expI (chi (m.e0 e))) (linkOf theta e) := by
  rw [linkOf, linkOf, expNegI_mul_expI, expI_mul_expNegI, gaugeTheta]
  congr 1
  ring

/-- The covariant gradient transforms covariantly. -/
theorem C04_grad_covariant (m : FVMesh ℝ) (theta chi : ℕ → ℝ) (psi : ℕ → Cx ℝ) (e : ℕ) :
    cgradEdge m (linkOf (gaugeTheta m theta chi)) (gaugePsi chi psi) e
      = Cx.mul (expI (chi (m.e0 e))) (cgradEdge m (linkOf theta) psi e) :=
  cgradEdge_gauge m (q := fun r => expI (chi r)) (link_gauge m theta chi) psi e

/-- The covariant Laplacian transforms covariantly (pinned identity rows included). -/
theorem C04_lap_covariant (m : FVMesh ℝ) (fixed : ℕ → Bool) (theta chi : ℕ → ℝ) (psi : ℕ → Cx ℝ) (r : ℕ) :
    clapRow m fixed (linkOf (gaugeTheta m theta chi)) (gaugePsi chi psi) r
      = Cx.mul (expI (chi r)) (clapRow m fixed (linkOf theta) psi r) :=
  clapRow_gauge m fixed (q := fun r => expI (chi r)) (fun _ => normSq_expI _) (link_gauge m theta chi) psi r

/-- The supercurrent on every edge is gauge invariant. -/
theorem C04_supercurrent_invariant (m : FVMesh ℝ) (theta chi : ℕ → ℝ) (psi : ℕ → Cx ℝ) (e : ℕ) :
    superEdge m (linkOf (gaugeTheta m theta chi)) (gaugePsi chi psi) e
      = superEdge m (linkOf theta) psi e :=
  congrFun (superEdge_gauge m (q := fun r => expI (chi r)) (fun _ => normSq_expI _) (link_gauge m theta chi) psi) e

/-- `|ψ|²` as the code computes it is gauge invariant. -/
theorem C04_absSq_invariant (chi : ℕ → ℝ) (psi : ℕ → Cx ℝ) (r : ℕ) :
    absSq (gaugePsi chi psi r) = absSq (psi r) :=
  absSq_mul_unit (normSq_expI _) _

/-- One Euler update of a site maps gauge-related inputs to gauge-related outputs:
    `ψ'` picks up `e^{iχ_r}`, `|ψ'|²` is unchanged, and refusal is gauge invariant. -/
theorem C04_euler_covariant (m : FVMesh ℝ) (fixed : ℕ → Bool) (theta chi : ℕ → ℝ) (psi : ℕ → Cx ℝ)
    (a mu eps : ℕ → ℝ) (gamma u dt : ℝ) (r : ℕ) :
    eulerSite m fixed (linkOf (gaugeTheta m theta chi)) (gaugePsi chi psi) a mu eps gamma u dt r
      = (eulerSite m fixed (linkOf theta) psi a mu eps gamma u dt r).map
          (fun px => (Cx.mul (expI (chi r)) px.1, px.2)) :=
  eulerSite_gauge m fixed (q := fun r => expI (chi r)) (fun _ => normSq_expI _) (fun _ => normSq_expI _)
    (link_gauge m theta chi) (fun _ => Cx.mul_comm _ _) psi a eps gamma u r

/-- `μ`, `Js`, `Jn` computed from gauge-related order parameters are identical. -/
theorem C04_observables_invariant (m : FVMesh ℝ) (solve : (ℕ → ℝ) → (ℕ → ℝ)) (theta chi : ℕ → ℝ)
    (psi : ℕ → Cx ℝ) (dAdt mb : ℕ → ℝ) :
    observables m solve (linkOf (gaugeTheta m theta chi)) (gaugePsi chi psi) dAdt mb
      = observables m solve (linkOf theta) psi dAdt mb := by
  unfold observables
  rw [show gaugePsi chi psi = rot (fun r => expI (chi r)) psi from rfl,
    superEdge_gauge m (fun _ => normSq_expI _) (link_gauge m theta chi)]

/-- two solver states are gauge related: ψ by the phase, everything observable equal -/
def GaugeRel (chi : ℕ → ℝ) (s s' : MState ℝ) : Prop :=
  s'.psi = gaugePsi chi s.psi ∧ s'.mu = s.mu ∧ s'.js = s.js ∧ s'.jn = s.jn

/-- One pinned update (nothing pinned, or pinned to zero) maps gauge-related states to gauge-related states, or is
    refused in both gauges. -/
theorem fullStepP_gauge (m : FVMesh ℝ) (fixed : ℕ → Bool) {tp : Option (Cx ℝ)} (htp : tp = none ∨ tp = some ⟨0, 0⟩)
    (theta chi : ℕ → ℝ) (solve : (ℕ → ℝ) → (ℕ → ℝ)) (eps : ℕ → ℝ) (gamma u dt : ℝ) (mb : ℕ → ℝ)
    (s s' : MState ℝ) (h : GaugeRel chi s s') :
    OptRel (GaugeRel chi) (fullStepP m fixed tp (linkOf theta) solve eps gamma u dt mb s)
      (fullStepP m fixed tp (linkOf (gaugeTheta m theta chi)) solve eps gamma u dt mb s') := by
  obtain ⟨hpsi, hmu, -, -⟩ := h
  have habs : (fun r => absSq (s'.psi r)) = fun r => absSq (s.psi r) := by
    funext r
    rw [hpsi]
    exact C04_absSq_invariant chi s.psi r
  rw [fullStepP_eq, fullStepP_eq, habs, hpsi, hmu, show gaugePsi chi s.psi = rot (fun r => expI (chi r)) s.psi from rfl,
    eulerPinnedFn_gauge m fixed htp (q := fun r => expI (chi r)) (fun _ => normSq_expI _) (fun _ => normSq_expI _)
      (link_gauge m theta chi) (fun _ => Cx.mul_comm _ _) s.psi _ eps gamma u (fun _ _ => rfl),
    Option.map_map]
  refine OptRel.of_maps fun out => ?_
  have := C04_observables_invariant m solve theta chi (fun r => (out r).1) (fun _ => 0) mb
  simp only [Function.comp, obsState, GaugeRel]
  exact ⟨rfl, by rw [← this]; rfl, by rw [← this]; rfl, by rw [← this]; rfl⟩

/-- A whole run (any number of updates) in the transformed gauge reproduces the run in the original
    gauge: same refusals, `ψ` related by the gauge phase, identical `μ`, `Js`, `Jn` at every step. -/
theorem C04_run_covariant (m : FVMesh ℝ) (fixed : ℕ → Bool) (theta chi : ℕ → ℝ)
    (solve : (ℕ → ℝ) → (ℕ → ℝ)) (eps : ℕ → ℝ) (gamma u dt : ℝ) (mb : ℕ → ℝ) (k : ℕ)
    (s s' : MState ℝ) (h : GaugeRel chi s s') :
    match runSteps m fixed (linkOf theta) solve eps gamma u dt mb k s,
          runSteps m fixed (linkOf (gaugeTheta m theta chi)) solve eps gamma u dt mb k s' with
    | some t, some t' => GaugeRel chi t t'
    | none, none => True
    | _, _ => False := by
  rw [runSteps_eq, runSteps_eq]
  rcases (runStepsP_rel (fullStepP_gauge m fixed (Or.inl rfl) theta chi solve eps gamma u dt mb) k s s' h) with
    ⟨hx, hy⟩ | ⟨t, t', hx, hy, ht⟩ <;> rw [hx, hy]
  · trivial
  · exact ht

/-- A uniform shift `A → A + c` of the vector potential is the gauge function `χ(r) = c · r`:
    with `d_e = r_{e1} − r_{e0}`, `θ'_e − θ_e = c · d_e` exactly. -/
theorem C04_uniform_shift_is_gauge (m : FVMesh ℝ) (x y : ℕ → ℝ) (Ax Ay : ℕ → ℝ) (cx cy : ℝ) (e : ℕ) :
    (Ax e + cx) * (x (m.e1 e) - x (m.e0 e)) + (Ay e + cy) * (y (m.e1 e) - y (m.e0 e))
      = gaugeTheta m (fun e => Ax e * (x (m.e1 e) - x (m.e0 e)) + Ay e * (y (m.e1 e) - y (m.e0 e)))
          (fun r => cx * x r + cy * y r) e := by
  unfold gaugeTheta
  ring

end Tdgl.C04
