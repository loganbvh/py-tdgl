/-
  C12 for the physical adaptive run — the abstract controller model (`Tdgl/Adaptive.lean`, theorems in C12.lean: retry,
  rule, bounds, for every refusal oracle and every history of changes) is what the whole adaptive update
  (`Tdgl/AdaptiveRun.lean`: retry loop + Euler step + terminal re-imposition + observables + controller) runs:
  the list of time steps of `adaptiveRun` is the list of `adaptRun` for the oracle "the Euler step is accepted in the
  state reached" and the changes `max |Δ|ψ|²|` of that trajectory.  Hence the bounds and the fixed-step clause hold for
  every mesh, every physics parameters and every initial state.   (K := ℝ)
-/
import Mathlib.Algebra.Order.Field.Basic
import Mathlib.Analysis.SpecialFunctions.Trigonometric.Basic
import Mathlib.Tactic.Ring
import Mathlib.Tactic.Linarith
import Mathlib.Tactic.Positivity
import Tdgl.Lemmas.RealInst
import Tdgl.Lemmas.Update
import Tdgl.Operators
import Tdgl.Update
import Tdgl.Adaptive
import Tdgl.AdaptiveRun
import Tdgl.Props.C12

open Tdgl

namespace Tdgl.C12

private theorem foldl_pyMax_nonneg (f : ℕ → ℝ) (l : List ℕ) (acc : ℝ) (h : 0 ≤ acc) :
    0 ≤ l.foldl (fun acc r => pyMax acc (f r)) acc := by
  induction l generalizing acc with
  | nil => simpa using h
  | cons x l ih =>
    simp only [List.foldl_cons]
    apply ih
    unfold pyMax
    split_ifs with hlt
    · exact le_trans h hlt.le
    · exact h

/-- the recorded change is never negative -/
theorem C12_maxChange_nonneg (n : ℕ) (a b : ℕ → ℝ) : 0 ≤ maxChange n a b := by
  unfold maxChange
  exact foldl_pyMax_nonneg (fun r => absVal (a r - b r)) (List.range n) 0 le_rfl

/-- `adaptRun` started at index `i` only consults the oracle and the changes at indices `≥ i` -/
private theorem adaptRun_congr (o : AdaptOpts ℝ) (ok ok₂ : ℕ → ℝ → Bool) (d d₂ : ℕ → ℝ) (n : ℕ) :
    ∀ (i : ℕ) (st : AdaptState ℝ), (∀ j, i ≤ j → ok j = ok₂ j) → (∀ j, i ≤ j → d j = d₂ j) →
      adaptRun o ok d n i st = adaptRun o ok₂ d₂ n i st := by
  induction n with
  | zero => intro i st _ _; rw [adaptRun, adaptRun]
  | succ n ih =>
    intro i st h1 h2
    rw [adaptRun, adaptRun, h1 i le_rfl, h2 i le_rfl]
    cases hu : dtUsed o (ok₂ i) st.tentative with
    | none => rfl
    | some dt =>
      simp only
      rw [ih (i + 1) _ (fun j hj => h1 j (by omega)) (fun j hj => h2 j (by omega))]

/-- Refinement: an adaptive run of the physics that finishes is a run of the controller model, for some refusal oracle
    and some sequence of non-negative changes (namely those of the physics' own trajectory). -/
theorem C12_adaptiveRun_refines (m : FVMesh ℝ) (fixed : ℕ → Bool) (tp : Option (Cx ℝ)) (U : ℕ → Cx ℝ)
    (solve : (ℕ → ℝ) → (ℕ → ℝ)) (eps : ℕ → ℝ) (gamma u : ℝ) (mb : ℕ → ℝ) (o : AdaptOpts ℝ)
    (n i : ℕ) (s s' : AState ℝ) (dts : List ℝ)
    (h : adaptiveRun m fixed tp U solve eps gamma u mb o n i s = some (dts, s')) :
    ∃ (ok : ℕ → ℝ → Bool) (d : ℕ → ℝ), (∀ j, 0 ≤ d j) ∧ adaptRun o ok d n i s.ctl = some (dts, s'.ctl) := by
  induction n generalizing i s dts with
  | zero =>
    obtain ⟨rfl, rfl⟩ := Prod.mk.inj (Option.some.inj h)
    exact ⟨fun _ _ => true, fun _ => 0, fun _ => le_rfl, rfl⟩
  | succ n ih =>
    obtain ⟨dt, s1, dts0, hstep, hr, rfl⟩ := (adaptiveRun_succ_eq_some_iff ..).mp h
    obtain ⟨ok', d', hd', hrun'⟩ := ih (i + 1) s1 dts0 hr
    obtain ⟨hu, out, -, rfl⟩ := (adaptiveStep_eq_some_iff ..).mp hstep
    -- the oracle and the change of update `i` are those of the physics; later ones are the ones found for the rest
    refine ⟨fun j => if j = i then (fun dt => (trialStep m fixed tp U eps gamma u s dt).isSome) else ok' j,
      fun j => if j = i then maxChange m.n (fun r => (out r).2) (fun r => absSq (s.phys.psi r)) else d' j,
      fun j => ?_, ?_⟩
    · show 0 ≤ if j = i then _ else _
      split_ifs
      · exact C12_maxChange_nonneg _ _ _
      · exact hd' j
    · rw [adaptRun]
      simp only [if_true]
      rw [hu]
      simp only
      rw [adaptRun_congr o _ ok' _ d' n (i + 1) _ (fun j hj => by simp [show j ≠ i by omega])
        (fun j hj => by simp [show j ≠ i by omega])]
      exact hrun' ▸ rfl

/-- Every time step used by the physical adaptive run is positive and at most `dt_max` (`dt_init` when adaptivity is
    off), on every mesh, for every state, whatever the Euler step refuses. -/
theorem C12_physical_bounds (m : FVMesh ℝ) (fixed : ℕ → Bool) (tp : Option (Cx ℝ)) (U : ℕ → Cx ℝ)
    (solve : (ℕ → ℝ) → (ℕ → ℝ)) (eps : ℕ → ℝ) (gamma u : ℝ) (mb : ℕ → ℝ) (o : AdaptOpts ℝ) (hs : Sane o)
    (n i : ℕ) (s s' : AState ℝ) (dts : List ℝ)
    (hst : 0 < s.ctl.tentative ∧ s.ctl.tentative ≤ o.dtMax) (hh : ∀ x ∈ s.ctl.hist, 0 ≤ x)
    (h : adaptiveRun m fixed tp U solve eps gamma u mb o n i s = some (dts, s')) :
    dts.length = n ∧ ∀ x ∈ dts, 0 < x ∧ x ≤ o.dtMax := by
  obtain ⟨ok, d, hd, hrun⟩ := C12_adaptiveRun_refines m fixed tp U solve eps gamma u mb o n i s s' dts h
  exact C12_bounds o hs ok d hd n i s.ctl hst hh dts s'.ctl hrun

/-- With adaptivity off every step of the physical run equals the initial step. -/
theorem C12_physical_fixed (m : FVMesh ℝ) (fixed : ℕ → Bool) (tp : Option (Cx ℝ)) (U : ℕ → Cx ℝ)
    (solve : (ℕ → ℝ) → (ℕ → ℝ)) (eps : ℕ → ℝ) (gamma u : ℝ) (mb : ℕ → ℝ) (o : AdaptOpts ℝ) (ha : o.adaptive = false)
    (n i : ℕ) (p : MState ℝ) (s' : AState ℝ) (dts : List ℝ)
    (h : adaptiveRun m fixed tp U solve eps gamma u mb o n i ⟨p, AdaptState.init o⟩ = some (dts, s')) :
    ∀ x ∈ dts, x = o.dtInit := by
  obtain ⟨ok, d, _, hrun⟩ :=
    C12_adaptiveRun_refines m fixed tp U solve eps gamma u mb o n i ⟨p, AdaptState.init o⟩ s' dts h
  exact C12_fixed o ok d ha n i dts s'.ctl hrun

end Tdgl.C12
