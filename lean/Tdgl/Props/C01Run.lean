/-
  C01 — "at every recorded step": per-cell continuity carried from the observables of one update (C01.lean) to the whole
  adaptive update and to every frame of a recorded run of the physical update (models: Tdgl/AdaptiveRun.lean,
  Tdgl/Runner.lean instantiated by `C05.physUpd`).

  The sparse solve is external (trusted base): `SolvesPoisson` says that what it returns satisfies the Poisson equation it was
  handed, for the right-hand sides that arise (the harness measures exactly this residual on the real runs).

    * `C01_adaptive_step_balanced` — the state an answered whole update returns is balanced in every cell, whatever state it
      was given (balanced or not: e.g. the initial condition with zero currents, an arbitrary seed);
    * `C01_physical_run_balanced` — along the trajectory of the physical update, the state after `j + 1` updates is balanced
      whenever update `j` was answered;
    * `C01_physical_frames_balanced` — every frame of a finished recorded stage with a label ≥ 1 holds a balanced state
      (frame 0 holds the initial condition, which carries no current at all).
-/
import Mathlib.Algebra.Order.Field.Basic
import Mathlib.Analysis.SpecialFunctions.Trigonometric.Basic
import Mathlib.Tactic.Common
import Tdgl.Lemmas.RealInst
import Tdgl.Lemmas.Update
import Tdgl.Props.C01
import Tdgl.Props.C05Physical

open Tdgl

namespace Tdgl.C01

/-- the currents of a solver state are balanced: in every cell the divergence of `Js + Jn` is the injected boundary flux -/
def Balanced (m : FVMesh ℝ) (mb : ℕ → ℝ) (s : MState ℝ) : Prop :=
  ∀ r, r < m.n → divRow m (fun e => s.js e + s.jn e) r = neuRow m mb r

/-- what is assumed of the external sparse solve: its answer satisfies the Poisson equation of the order parameter it is
    called for (static applied potential: `dA/dt = 0`) -/
def SolvesPoisson (m : FVMesh ℝ) (U : ℕ → Cx ℝ) (mb : ℕ → ℝ) (solve : (ℕ → ℝ) → (ℕ → ℝ)) : Prop :=
  ∀ psi : ℕ → Cx ℝ, ∀ r, r < m.n →
    lapRow m (solve (poissonRhs m (superEdge m U psi) (fun _ => 0) mb)) r
      = poissonRhs m (superEdge m U psi) (fun _ => 0) mb r

/-- **An answered whole update returns balanced currents**, from any state. -/
theorem C01_adaptive_step_balanced (m : FVMesh ℝ) (fixed : ℕ → Bool) (tp : Option (Cx ℝ)) (U : ℕ → Cx ℝ)
    (solve : (ℕ → ℝ) → (ℕ → ℝ)) (eps : ℕ → ℝ) (gamma u : ℝ) (mb : ℕ → ℝ) (o : AdaptOpts ℝ) (i : ℕ)
    (s s' : AState ℝ) (dt : ℝ) (hsolve : SolvesPoisson m U mb solve)
    (h : adaptiveStep m fixed tp U solve eps gamma u mb o i s = some (dt, s')) :
    Balanced m mb s'.phys := by
  obtain ⟨-, out, -, rfl⟩ := (adaptiveStep_eq_some_iff ..).mp h
  intro r hr
  exact C01_cell_continuity m _ (fun _ => 0) mb _ (hsolve (fun r => (out r).1)) r hr

/-- Along the trajectory of the physical update the state after `j + 1` updates is balanced whenever update `j` was answered. -/
theorem C01_physical_run_balanced (m : FVMesh ℝ) (fixed : ℕ → Bool) (tp : Option (Cx ℝ)) (U : ℕ → Cx ℝ)
    (solve : (ℕ → ℝ) → (ℕ → ℝ)) (eps : ℕ → ℝ) (gamma u : ℝ) (mb : ℕ → ℝ) (o : AdaptOpts ℝ)
    (hsolve : SolvesPoisson m U mb solve) (s0 : AState ℝ) (j : ℕ)
    (hans : adaptiveStep m fixed tp U solve eps gamma u mb o j
        (traj (C05.physUpd m fixed tp U solve eps gamma u mb o) s0 j).2 ≠ none) :
    Balanced m mb (traj (C05.physUpd m fixed tp U solve eps gamma u mb o) s0 (j+1)).2.phys := by
  obtain ⟨_, hstep, _⟩ := C05.C05_physical_steps_solve_site_equations m fixed tp U solve eps gamma u mb o s0 j hans
  exact C01_adaptive_step_balanced m fixed tp U solve eps gamma u mb o j _ _ _ hsolve hstep

/-- **Every recorded frame with a label ≥ 1 holds balanced currents** (finished recorded stage of the physical update whose
    updates were all answered). -/
theorem C01_physical_frames_balanced (m : FVMesh ℝ) (fixed : ℕ → Bool) (tp : Option (Cx ℝ)) (U : ℕ → Cx ℝ)
    (solve : (ℕ → ℝ) → (ℕ → ℝ)) (eps : ℕ → ℝ) (gamma u : ℝ) (mb : ℕ → ℝ) (o : AdaptOpts ℝ)
    (hsolve : SolvesPoisson m U mb solve) (s0 : AState ℝ) (k : ℕ) (hk : 0 < k) (T : ℝ) (fuel : ℕ)
    (e : StageEnd ℝ (AState ℝ) ℝ)
    (h : runStage (C05.physUpd m fixed tp U solve eps gamma u mb o) true k T fuel 0 0 s0 [] [] = some e)
    (hans : ∀ j, adaptiveStep m fixed tp U solve eps gamma u mb o j
        (traj (C05.physUpd m fixed tp U solve eps gamma u mb o) s0 j).2 ≠ none)
    (f : Frame ℝ (AState ℝ) ℝ) (hf : f ∈ e.frames) (hlabel : 1 ≤ f.step) :
    Balanced m mb f.snap.phys := by
  obtain ⟨N, _, _, hon, _⟩ := C05.C05_physical_frames m fixed tp U solve eps gamma u mb o s0 k hk T fuel e h
  rw [(hon f hf).2]
  obtain ⟨j, hj⟩ : ∃ j, f.step = j + 1 := ⟨f.step - 1, by omega⟩
  rw [hj]
  exact C01_physical_run_balanced m fixed tp U solve eps gamma u mb o hsolve s0 j (hans j)

/-- non-vacuity of `SolvesPoisson`: on the two-site mesh with one edge (no boundary edges, so no injection) the solve
    "ground site 0, put the right-hand side of site 0 on site 1" answers every Poisson problem that arises, for every link
    variable — the hypothesis of the theorems above is met by a concrete mesh and solver -/
example (U : ℕ → Cx ℝ) :
    SolvesPoisson (⟨2, 1, fun _ => 0, fun _ => 1, fun _ => 1, fun _ => 1, fun _ => 1, 0, fun _ => 0⟩ : FVMesh ℝ) U (fun _ => 0)
      (fun rhs r => if r = 0 then 0 else rhs 0) := by
  intro psi r hr
  have hr' : r = 0 ∨ r = 1 := by
    simp only at hr
    omega
  rcases hr' with rfl | rfl <;>
    simp [lapRow, poissonRhs, divRow, neuRow, sumTo, FVMesh.w]

end Tdgl.C01
