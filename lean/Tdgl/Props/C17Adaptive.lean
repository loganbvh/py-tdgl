/-
  C17 (the adaptive clause) — in the quiet uniform state the whole ADAPTIVE update (retry loop, Euler step, observables,
  controller) leaves the fields exactly where they are, records a change of exactly 0, and the time step goes from
  `dt_init` to `dt_max` as soon as the warm-up window is over and stays there: "the adaptive time step grows to its
  maximum".  Terminals left unpinned (`terminal_psi = None`: no identity rows), no field (θ = 0), ε = 1, no bias (μ_b = 0);
  any mesh, any γ, u; the Poisson solver only has to map 0 to 0.   (K := ℝ)
-/
import Mathlib.Algebra.Order.Field.Basic
import Mathlib.Analysis.SpecialFunctions.Trigonometric.Basic
import Mathlib.Tactic.Ring
import Mathlib.Tactic.Linarith
import Mathlib.Tactic.Positivity
import Tdgl.Lemmas.RealInst
import Tdgl.Lemmas.Update
import Tdgl.Lemmas.Sums
import Tdgl.Operators
import Tdgl.Update
import Tdgl.Adaptive
import Tdgl.AdaptiveRun
import Tdgl.Props.C12
import Tdgl.Props.C17

open Tdgl Tdgl.C12

namespace Tdgl.C17

private theorem foldl_zero {α : Type} (f : ℝ → α → ℝ) (hf : ∀ r, f 0 r = 0) (l : List α) :
    l.foldl f 0 = 0 := by
  induction l with
  | nil => rfl
  | cons a l ih => rw [List.foldl_cons, hf, ih]

private theorem maxChange_zero (n : ℕ) : maxChange n (fun _ => (1 : ℝ)) (fun _ => absSq (⟨1, 0⟩ : Cx ℝ)) = 0 := by
  unfold maxChange
  apply foldl_zero
  intro r
  rw [absSq_one]
  simp [pyMax, absVal]

private theorem euler_quiet (m : FVMesh ℝ) (gamma u dt : ℝ) :
    eulerPinnedFn m (fun _ => false) none (linkOf theta0) (fun _ => (⟨1, 0⟩ : Cx ℝ))
      (fun _ => absSq (⟨1, 0⟩ : Cx ℝ)) (fun _ => 0) (fun _ => 1) gamma u dt
        = some (fun _ => (⟨1, 0⟩, 1)) := by
  unfold eulerPinnedFn
  simp [eulerSite_uniform, pinSite]

/-- One adaptive update of the quiet state: accepted at the first attempt with the tentative step, the fields do not
    move, the recorded change is 0. -/
theorem C17_adaptive_step_quiet (m : FVMesh ℝ) (solve : (ℕ → ℝ) → (ℕ → ℝ)) (hsolve : solve (fun _ => 0) = fun _ => 0)
    (gamma u : ℝ) (o : AdaptOpts ℝ) (i : ℕ) (ctl : AdaptState ℝ) :
    adaptiveStep m (fun _ => false) none (linkOf theta0) solve (fun _ => 1) gamma u (fun _ => 0) o i ⟨uniform, ctl⟩
      = some (ctl.tentative, ⟨uniform, adaptAfter o ctl i ctl.tentative 0⟩) := by
  refine (adaptiveStep_eq_some_iff ..).mpr ⟨eulerRetry_of_ok _ _ _ ?_, _, euler_quiet m gamma u _, ?_⟩
  · exact Option.isSome_iff_exists.mpr ⟨_, euler_quiet m gamma u _⟩
  · simp only [afterStep, obsState, uniform, observables_uniform m solve hsolve, maxChange_zero]

private theorem listSum_zero (l : List ℝ) (h : ∀ x ∈ l, x = 0) : listSum l = 0 := by
  unfold listSum
  induction l with
  | nil => rfl
  | cons a l ih =>
    rw [List.foldl_cons, h a (by simp), add_zero]
    exact ih fun x hx => h x (by simp [hx])

private theorem mean_zero (l : List ℝ) (h : ∀ x ∈ l, x = 0) : mean l = 0 := by
  unfold mean
  rw [listSum_zero l h, zero_div]

private theorem lastN_mem (l : List ℝ) (w : ℕ) (x : ℝ) (hx : x ∈ lastN l w) : x ∈ l := by
  unfold lastN at hx
  split_ifs at hx
  · exact hx
  · exact List.mem_of_mem_drop hx

/-- the proposal in the quiet regime is `dt_max` -/
private theorem propose_quiet (o : AdaptOpts ℝ) (hs : Sane o) (ha : o.adaptive = true)
    (hbig : 2 * o.dtMaxOpt ≤ o.dtInit / o.floor) (dt : ℝ) (hdt : 0 < dt) :
    clip (o.half * (o.dtInit / pyMax o.floor 0 + dt)) 0 o.dtMax = o.dtMaxOpt := by
  have hfl : pyMax o.floor 0 = o.floor := by
    unfold pyMax
    rw [if_neg (not_lt.mpr hs.floor_pos.le)]
  have hmax : o.dtMax = o.dtMaxOpt := by unfold AdaptOpts.dtMax; rw [ha]; rfl
  have hpos : 0 < o.dtMaxOpt := lt_of_lt_of_le hs.init_pos hs.init_le
  rw [hfl, hmax, hs.half_eq]
  unfold clip
  have hx : o.dtMaxOpt < 1 / 2 * (o.dtInit / o.floor + dt) := by linarith
  have hx0 : ¬ 1 / 2 * (o.dtInit / o.floor + dt) < 0 := by linarith
  simp only [if_neg hx0, if_pos hx]

private def Inv (o : AdaptOpts ℝ) (i : ℕ) (ctl : AdaptState ℝ) : Prop :=
  (∀ x ∈ ctl.hist, x = 0) ∧ ctl.tentative = if i ≤ o.window + 1 then o.dtInit else o.dtMaxOpt

private theorem inv_step (o : AdaptOpts ℝ) (hs : Sane o) (ha : o.adaptive = true)
    (hbig : 2 * o.dtMaxOpt ≤ o.dtInit / o.floor) (i : ℕ) (ctl : AdaptState ℝ) (h : Inv o i ctl) :
    Inv o (i + 1) (adaptAfter o ctl i ctl.tentative 0) := by
  obtain ⟨hz, ht⟩ := h
  have hz' : ∀ x ∈ ctl.hist ++ [(0 : ℝ)], x = 0 := by
    intro x hx
    rcases List.mem_append.mp hx with hx | hx
    · exact hz x hx
    · simpa using hx
  have hpos : 0 < ctl.tentative := by
    rw [ht]; split_ifs
    · exact hs.init_pos
    · exact lt_of_lt_of_le hs.init_pos hs.init_le
  unfold adaptAfter
  rw [if_pos ha]
  by_cases hw : o.window < i
  · simp only [if_pos hw]
    refine ⟨hz', ?_⟩
    show clip _ 0 o.dtMax = _
    rw [mean_zero _ (fun x hx => hz' x (lastN_mem _ _ _ hx)), propose_quiet o hs ha hbig _ hpos,
      if_neg (by omega)]
  · simp only [if_neg hw]
    refine ⟨hz', ?_⟩
    show ctl.tentative = _
    rw [ht, if_pos (by omega), if_pos (by omega)]

private theorem run_quiet (m : FVMesh ℝ) (solve : (ℕ → ℝ) → (ℕ → ℝ)) (hsolve : solve (fun _ => 0) = fun _ => 0)
    (gamma u : ℝ) (o : AdaptOpts ℝ) (hs : Sane o) (ha : o.adaptive = true)
    (hbig : 2 * o.dtMaxOpt ≤ o.dtInit / o.floor) (n : ℕ) :
    ∀ (i : ℕ) (ctl : AdaptState ℝ), Inv o i ctl →
    ∃ ctl', adaptiveRun m (fun _ => false) none (linkOf theta0) solve (fun _ => 1) gamma u (fun _ => 0) o n i
        ⟨uniform, ctl⟩
      = some (List.replicate (min n (o.window + 2 - i)) o.dtInit
                ++ List.replicate (n - (o.window + 2 - i)) o.dtMaxOpt,
              ⟨uniform, ctl'⟩) := by
  induction n with
  | zero => intro i ctl _; exact ⟨ctl, by simp [adaptiveRun]⟩
  | succ n ih =>
    intro i ctl h
    obtain ⟨ctl', hrun⟩ := ih (i + 1) _ (inv_step o hs ha hbig i ctl h)
    refine ⟨ctl', ?_⟩
    unfold adaptiveRun
    rw [C17_adaptive_step_quiet m solve hsolve]
    simp only [hrun]
    congr 2
    rw [h.2]
    by_cases hi : i ≤ o.window + 1
    · rw [if_pos hi]
      have e1 : min (n + 1) (o.window + 2 - i) = min n (o.window + 2 - (i + 1)) + 1 := by omega
      have e2 : n + 1 - (o.window + 2 - i) = n - (o.window + 2 - (i + 1)) := by omega
      rw [e1, e2, List.replicate_succ, List.cons_append]
    · rw [if_neg hi]
      have e1 : min (n + 1) (o.window + 2 - i) = 0 := by omega
      have e2 : min n (o.window + 2 - (i + 1)) = 0 := by omega
      have e3 : n + 1 - (o.window + 2 - i) = (n - (o.window + 2 - (i + 1))) + 1 := by omega
      rw [e1, e2, e3, List.replicate_succ]
      simp

/-- The time steps of a quiet adaptive run of `n` updates from the initial controller state: `dt_init` during the warm-up
    (the proposal made after update `window + 1` is used from update `window + 2` on), then `dt_max`; the state is the
    uniform state throughout.  `2 dt_max ≤ dt_init / floor` holds for every sensible option set (`floor = 1e-10`). -/
theorem C17_adaptive_dt_grows (m : FVMesh ℝ) (solve : (ℕ → ℝ) → (ℕ → ℝ)) (hsolve : solve (fun _ => 0) = fun _ => 0)
    (gamma u : ℝ) (o : AdaptOpts ℝ) (hs : Sane o) (ha : o.adaptive = true) (hw : 1 ≤ o.window)
    (hbig : 2 * o.dtMaxOpt ≤ o.dtInit / o.floor) (n : ℕ) :
    ∃ ctl', adaptiveRun m (fun _ => false) none (linkOf theta0) solve (fun _ => 1) gamma u (fun _ => 0) o n 0
        ⟨uniform, AdaptState.init o⟩
      = some (List.replicate (min n (o.window + 2)) o.dtInit ++ List.replicate (n - (o.window + 2)) o.dtMaxOpt,
              ⟨uniform, ctl'⟩) := by
  have _ := hw  -- not needed: with `window = 0` the slice `hist[-0:]` is the whole (all-zero) history
  have h0 : Inv o 0 (AdaptState.init o) := by
    refine ⟨by simp [AdaptState.init], ?_⟩
    simp [AdaptState.init]
  simpa using run_quiet m solve hsolve gamma u o hs ha hbig n 0 _ h0

/-- non-vacuity of the hypotheses: the default-like options dt_init = 1/1000, dt_max = 1/10, floor = 1e-10 -/
example : (2 : ℝ) * (1 / 10) ≤ (1 / 1000) / (1 / 10000000000) := by norm_num

end Tdgl.C17
