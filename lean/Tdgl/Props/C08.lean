/-
  C08 — results do not depend on the unit system used to state the problem.   Model: Tdgl/Units.lean.
  Two descriptions of the same physical device: numbers `n` in units `u` and numbers `n'` in units `u'`
  with equal SI values (`n.xi * u.lu = n'.xi * u'.lu`, …).  Everything the solver consumes is a function of
  the SI values only.
-/
import Mathlib.Algebra.Field.Basic
import Mathlib.Tactic.Ring
import Mathlib.Tactic.FieldSimp
import Mathlib.Tactic.LinearCombination
import Tdgl.Units

open Tdgl

namespace Tdgl.C08

variable {K : Type} [Field K]

/-- the two descriptions denote the same physical problem -/
structure SamePhysics (u u' : UnitSys K) (n n' : Numbers K) : Prop where
  xi : n.xi * u.lu = n'.xi * u'.lu
  lam : n.lam * u.lu = n'.lam * u'.lu
  d : n.d * u.lu = n'.d * u'.lu
  B : n.B * u.fu = n'.B * u'.fu
  I : n.I * u.cu = n'.I * u'.cu
  Lt : n.Lt * u.lu = n'.Lt * u'.lu

/-- all units and lengths are non-zero -/
structure NonDeg (c : Consts K) (u : UnitSys K) (n : Numbers K) : Prop where
  lu : u.lu ≠ 0
  fu : u.fu ≠ 0
  cu : u.cu ≠ 0
  xi : n.xi ≠ 0
  lam : n.lam ≠ 0
  d : n.d ≠ 0
  Lt : n.Lt ≠ 0
  pi : c.pi ≠ 0
  mu0 : c.mu0 ≠ 0
  Phi0 : c.Phi0 ≠ 0

/-- `Bc2`, `A0`, `K0` (SI) are the same in both descriptions. -/
theorem C08_scales_invariant (c : Consts K) (u u' : UnitSys K) (n n' : Numbers K)
    (h : SamePhysics u u' n n') :
    bc2 c u n = bc2 c u' n' ∧ a0 c u n = a0 c u' n' ∧ k0 c u n = k0 c u' n' := by
  obtain ⟨hxi, hlam, hd, -, -, -⟩ := h
  simp only [bc2, a0, k0, hxi, hlam, hd, and_self]

/-! Each dimensionless quantity the solver consumes, written in the SI values `number × unit` alone.  Unit invariance
is then a rewrite by `SamePhysics`; no non-degeneracy beyond what cancels a unit against itself is needed. -/

/-- `θ_e = (B / (Bc2 ξ²)) · (A-line integral of the unit field along the edge)`, all in SI -/
theorem linkTheta_eq (c : Consts K) (u : UnitSys K) (n : Numbers K) (hlu : u.lu ≠ 0)
    (x0 y0 x1 y1 xc yc : K) :
    linkTheta c u n x0 y0 x1 y1 xc yc
      = n.B * u.fu / (bc2 c u n * ((n.xi * u.lu) * (n.xi * u.lu))) *
        ((((x0 * u.lu + x1 * u.lu) / 2 - xc * u.lu) * (y1 * u.lu - y0 * u.lu)
          - ((y0 * u.lu + y1 * u.lu) / 2 - yc * u.lu) * (x1 * u.lu - x0 * u.lu)) / 2) := by
  have e1 : (((x0 * u.lu + x1 * u.lu) / 2 - xc * u.lu) * (y1 * u.lu - y0 * u.lu)
          - ((y0 * u.lu + y1 * u.lu) / 2 - yc * u.lu) * (x1 * u.lu - x0 * u.lu)) / 2
      = (((x0 + x1) / 2 - xc) * (y1 - y0) - ((y0 + y1) / 2 - yc) * (x1 - x0)) / 2 * (u.lu * u.lu) := by ring
  have e2 : bc2 c u n * ((n.xi * u.lu) * (n.xi * u.lu)) = bc2 c u n * n.xi * n.xi * (u.lu * u.lu) := by ring
  rw [e1, e2, div_mul_eq_mul_div, ← mul_assoc, mul_div_mul_right _ _ (mul_ne_zero hlu hlu)]
  unfold linkTheta uniformA aScale
  rw [mul_div_mul_right _ _ hlu]
  ring

theorem terminalMb_eq (c : Consts K) (u : UnitSys K) (n : Numbers K) :
    terminalMb c u n = 4 * (n.I * u.cu) / (k0 c u n * (n.Lt * u.lu)) := by
  unfold terminalMb jScale
  ring

theorem screenWeight_eq (c : Consts K) (u : UnitSys K) (n : Numbers K) (hxi : n.xi ≠ 0) (a rho : K) :
    screenScale c u n * a * (n.xi * n.xi) / (n.xi * rho)
      = c.mu0 / (4 * c.pi) * k0 c u n / a0 c u n * a * (n.xi * u.lu) / rho := by
  rw [mul_comm n.xi rho, ← mul_assoc, mul_div_mul_right _ _ hxi]
  unfold screenScale
  ring

/-- The dimensionless link exponent of every edge is the same: with numeric coordinates related by the
    change of length unit (`x * u.lu = x' * u'.lu` for every coordinate, including the re-centring point). -/
theorem C08_link_exponent_invariant (c : Consts K) (u u' : UnitSys K) (n n' : Numbers K)
    (h : SamePhysics u u' n n') (hn : NonDeg c u n) (hn' : NonDeg c u' n')
    (x0 y0 x1 y1 xc yc x0' y0' x1' y1' xc' yc' : K)
    (e1 : x0 * u.lu = x0' * u'.lu) (e2 : y0 * u.lu = y0' * u'.lu) (e3 : x1 * u.lu = x1' * u'.lu)
    (e4 : y1 * u.lu = y1' * u'.lu) (e5 : xc * u.lu = xc' * u'.lu) (e6 : yc * u.lu = yc' * u'.lu) :
    linkTheta c u n x0 y0 x1 y1 xc yc = linkTheta c u' n' x0' y0' x1' y1' xc' yc' := by
  rw [linkTheta_eq c u n hn.lu, linkTheta_eq c u' n' hn'.lu, (C08_scales_invariant c u u' n n' h).1,
    h.xi, h.B, e1, e2, e3, e4, e5, e6]

/-- The dimensionless boundary current density of a terminal is the same. -/
theorem C08_terminal_density_invariant (c : Consts K) (u u' : UnitSys K) (n n' : Numbers K)
    (h : SamePhysics u u' n n') (hn : NonDeg c u n) (hn' : NonDeg c u' n') :
    terminalMb c u n = terminalMb c u' n' := by
  rw [terminalMb_eq, terminalMb_eq, (C08_scales_invariant c u u' n n' h).2.2, h.I, h.Lt]

/-- The screening weight of a cell, `screenScale · a · ξ² / (ξ ρ)` with dimensionless area `a` and
    dimensionless distance `ρ`, is the same. -/
theorem C08_screening_weight_invariant (c : Consts K) (u u' : UnitSys K) (n n' : Numbers K)
    (h : SamePhysics u u' n n') (hn : NonDeg c u n) (hn' : NonDeg c u' n') (a rho : K) (hr : rho ≠ 0) :
    screenScale c u n * a * (n.xi * n.xi) / (n.xi * rho) = screenScale c u' n' * a * (n'.xi * n'.xi) / (n'.xi * rho) := by
  rw [screenWeight_eq c u n hn.xi, screenWeight_eq c u' n' hn'.xi, (C08_scales_invariant c u u' n n' h).2.1,
    (C08_scales_invariant c u u' n n' h).2.2, h.xi]

/-- Physical outputs: the sheet-current scale converted to fixed (SI) units agrees, so
    `K0 · (dimensionless current)` does. -/
theorem C08_physical_current_invariant (c : Consts K) (u u' : UnitSys K) (n n' : Numbers K)
    (h : SamePhysics u u' n n') (j : K) : k0 c u n * j = k0 c u' n' * j := by
  rw [(C08_scales_invariant c u u' n n' h).2.2]

/-- Flux quantisation of the link phases: the phase accumulated around a triangle in a uniform field is
    `2π · B · area / Φ0`, whatever point the vector potential is re-centred on. -/
theorem C08_flux_per_triangle (c : Consts K) (u : UnitSys K) (n : Numbers K) (hn : NonDeg c u n)
    (h2 : (2 : K) ≠ 0) (x1 y1 x2 y2 x3 y3 xc yc : K) :
    linkTheta c u n x1 y1 x2 y2 xc yc + linkTheta c u n x2 y2 x3 y3 xc yc + linkTheta c u n x3 y3 x1 y1 xc yc
      = 2 * c.pi * (n.B * u.fu) *
          (((x2 - x1) * (y3 - y1) - (x3 - x1) * (y2 - y1)) / 2 * (u.lu * u.lu)) / c.Phi0 := by
  have hX := mul_ne_zero hn.xi hn.lu
  have hb : bc2 c u n * ((n.xi * u.lu) * (n.xi * u.lu)) = c.Phi0 / (2 * c.pi) := by
    unfold bc2
    rw [← div_div, div_mul_cancel₀ _ (mul_ne_zero hX hX)]
  rw [linkTheta_eq c u n hn.lu, linkTheta_eq c u n hn.lu, linkTheta_eq c u n hn.lu, hb, div_div_eq_mul_div,
    ← mul_add, ← mul_add]
  -- the three edge integrals add up to twice the area, up to `2 · 2⁻¹ = 1`
  linear_combination (n.B * u.fu * (2 * c.pi) / c.Phi0 * 2⁻¹ *
    (((x2 - x1) * (y3 - y1) - (x3 - x1) * (y2 - y1)) * (u.lu * u.lu))) * mul_inv_cancel₀ h2

end Tdgl.C08
