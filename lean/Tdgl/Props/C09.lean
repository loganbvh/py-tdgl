/-
  C09 — simulations are deterministic: the part that is logic.
  Model: Tdgl/Schedule.lean.  The parallel kernels write cell `i` only in iteration `i` and read only
  inputs, so every execution order (and every initial content of the `np.empty` buffer) gives the same
  array on the written cells.
-/
import Mathlib.Data.List.Basic
import Mathlib.Data.List.Perm.Basic
import Mathlib.Tactic.Common
import Tdgl.Schedule

open Tdgl

namespace Tdgl.C09

variable {K : Type}

/-- **What a schedule computes**: cell `j` holds `f j` if some iteration wrote it, and its previous content otherwise —
    whatever the order and the multiplicity of the iterations. -/
theorem C09_runSchedule_apply (f : ℕ → K) (sched : List ℕ) (buf : ℕ → K) (j : ℕ) :
    runSchedule f sched buf j = if j ∈ sched then f j else buf j := by
  unfold runSchedule
  induction sched generalizing buf with
  | nil => rfl
  | cons a s ih =>
    rw [List.foldl_cons, ih]
    by_cases hs : j ∈ s
    · rw [if_pos hs, if_pos (List.mem_cons_of_mem _ hs)]
    · by_cases ha : j = a
      · rw [if_neg hs, if_pos ha, if_pos (ha ▸ List.mem_cons_self), ha]
      · rw [if_neg hs, if_neg ha, if_neg (fun h => (List.mem_cons.1 h).elim ha hs)]

/-- After running any schedule, a cell whose index occurs in the schedule holds `f i`, whatever the
    buffer contained before and whatever else ran. -/
theorem C09_written_cell (f : ℕ → K) (sched : List ℕ) (buf : ℕ → K) (i : ℕ) (hi : i ∈ sched) :
    runSchedule f sched buf i = f i := by
  rw [C09_runSchedule_apply, if_pos hi]

/-- A cell that no iteration writes keeps its previous content. -/
theorem C09_unwritten_cell (f : ℕ → K) (sched : List ℕ) (buf : ℕ → K) (i : ℕ) (hi : i ∉ sched) :
    runSchedule f sched buf i = buf i := by
  rw [C09_runSchedule_apply, if_neg hi]

/-- Schedule independence: two schedules that are permutations of each other (any distribution of the
    outer loop over threads, any interleaving) produce the same array from the same buffer. -/
theorem C09_schedule_independent (f : ℕ → K) (s₁ s₂ : List ℕ) (h : s₁.Perm s₂) (buf : ℕ → K) :
    runSchedule f s₁ buf = runSchedule f s₂ buf := by
  funext j
  simp only [C09_runSchedule_apply, h.mem_iff]

/-- The `np.empty` buffer is fully overwritten: if the schedule covers `0 … n−1`, the first `n` cells do
    not depend on the initial content of the buffer. -/
theorem C09_buffer_overwritten (f : ℕ → K) (sched : List ℕ) (n : ℕ) (hcover : ∀ i, i < n → i ∈ sched)
    (buf buf' : ℕ → K) (i : ℕ) (hi : i < n) :
    runSchedule f sched buf i = runSchedule f sched buf' i := by
  rw [C09_written_cell f sched buf i (hcover i hi), C09_written_cell f sched buf' i (hcover i hi)]

/-- In particular every schedule covering the range equals the sequential loop on the written cells. -/
theorem C09_equals_sequential (f : ℕ → K) (sched : List ℕ) (n : ℕ) (hcover : ∀ i, i < n → i ∈ sched)
    (buf : ℕ → K) (i : ℕ) (hi : i < n) :
    runSchedule f sched buf i = runSchedule f (List.range n) buf i := by
  rw [C09_written_cell f sched buf i (hcover i hi),
    C09_written_cell f (List.range n) buf i (List.mem_range.mpr hi)]

end Tdgl.C09
