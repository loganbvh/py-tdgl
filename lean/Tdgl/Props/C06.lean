/-
  C06 — the order parameter is pinned on current terminals and nowhere else.
-/
import Mathlib.Tactic.Ring
import Mathlib.Tactic.Linarith
import Tdgl.Lemmas.Sums
import Tdgl.Lemmas.RealInst
import Tdgl.Lemmas.Site
import Tdgl.Lemmas.Update
import Tdgl.Lemmas.Operators
import Tdgl.Update
import Tdgl.Props.C02

open Finset Tdgl

namespace Tdgl.C06

/-- Rows of pinned sites act as the identity, for every vector potential. -/
theorem C06_identity_row {K : Type} [Field K] (m : FVMesh K) (fixed : ℕ → Bool) (U psi : ℕ → Cx K) (r : ℕ)
    (h : fixed r = true) : clapRow m fixed U psi r = psi r := by
  unfold clapRow
  rw [if_pos h]

/-- Entry level: a pinned row is the unit row, whatever the link variables. -/
theorem C06_identity_entries {K : Type} [Field K] (m : FVMesh K) (fixed : ℕ → Bool) (U : ℕ → Cx K) (i j : ℕ)
    (h : fixed i = true) :
    clapEntry m fixed U i j = if i = j then Cx.one else Cx.zero := by
  unfold clapEntry
  rw [csumTo_eq_zero fun e _ => by simp [h, Cx.add, Cx.zero]]
  by_cases hij : i = j
  · rw [if_pos ⟨h, hij⟩, if_pos hij]; simp [Cx.add, Cx.zero, Cx.one]
  · rw [if_neg (fun hh => hij hh.2), if_neg hij]; simp [Cx.add, Cx.zero]

/-- ... and it stays the unit row after any in-place refresh. -/
theorem C06_identity_after_refresh {K : Type} [Field K] (m : FVMesh K) (fixed : ℕ → Bool)
    (U₁ U₂ : ℕ → Cx K) (i j : ℕ) (h : fixed i = true) :
    refreshLap m fixed (clapEntry m fixed U₁) U₂ i j = if i = j then Cx.one else Cx.zero := by
  unfold refreshLap
  rw [setMany_none, C06_identity_entries m fixed U₁ i j h]
  rintro t - ⟨hk, hr, -⟩
  rw [hr, h] at hk
  simp at hk

/-- Rows of sites that are not pinned are the rows of the free Laplacian. -/
theorem C06_unpinned_rows_untouched {K : Type} [Field K] (m : FVMesh K) (fixed : ℕ → Bool)
    (U psi : ℕ → Cx K) (r : ℕ) (h : fixed r = false) :
    clapRow m fixed U psi r = clapRow m (fun _ => false) U psi r := by
  unfold clapRow
  simp [h]

/-- `terminal_psi = None` (`fix_psi = False`) means no row is pinned: the operators are the free ones. -/
theorem C06_none_means_free {K : Type} [Field K] (m : FVMesh K) (terminal : ℕ → Bool)
    (U psi : ℕ → Cx K) (r : ℕ) :
    clapRow m (fun s => false && terminal s) U psi r = clapRow m (fun _ => false) U psi r :=
  C06_unpinned_rows_untouched m _ U psi r rfl

/-- The default normal-metal contact: a pinned site holding `ψ = 0` stays exactly `0` in every update,
    for every field, potential, ε, γ, u, dt and whatever `abs_sq_psi` the caller passes. -/
theorem C06_zero_held (m : FVMesh ℝ) (fixed : ℕ → Bool) (U psi : ℕ → Cx ℝ) (a mu eps : ℕ → ℝ)
    (gamma u dt : ℝ) (r : ℕ) (hf : fixed r = true) (h0 : psi r = ⟨0, 0⟩) :
    eulerSite m fixed U psi a mu eps gamma u dt r = some (⟨0, 0⟩, 0) := by
  rw [eulerSite, C06_identity_row m fixed U psi r hf, h0, stepSite_zero]

/-- As coded, a pinned site with a non-zero value obeys `ψ' + z|ψ'|² = w` with the identity row as
    its "Laplacian", i.e. it evolves by `u ψ̇/√… = (1 + ε − |ψ|²) ψ`: it is NOT held.  Witness:
    `ψ = 1/2`, `ε = 1`, `γ = 0`, `u = 1`, `dt = 1`, `μ = 0`: the update returns `ψ' = 1/2 + (3/4+1)/2 ≠ 1/2`. -/
theorem C06_value_not_held_counterexample :
    ∃ (m : FVMesh ℝ) (fixed : ℕ → Bool) (U psi : ℕ → Cx ℝ) (r : ℕ) (p : Cx ℝ) (x : ℝ),
      fixed r = true ∧ psi r = ⟨1/2, 0⟩ ∧
      eulerSite m fixed U psi (fun s => absSq (psi s)) (fun _ => 0) (fun _ => 1) 0 1 1 r = some (p, x) ∧
      p ≠ psi r := by
  refine ⟨⟨1, 0, fun _ => 0, fun _ => 0, fun _ => 1, fun _ => 1, fun _ => 1, 0, fun _ => 0⟩,
    fun _ => true, fun _ => ⟨1, 0⟩, fun _ => ⟨1/2, 0⟩, 0, ⟨11/8, 0⟩, 121/64, rfl, rfl, ?_, ?_⟩
  · unfold eulerSite stepSite
    rw [C06_identity_row _ _ _ _ _ rfl]
    have ha : absSq (⟨1/2, 0⟩ : Cx ℝ) = 1/4 := by
      rw [C02.C02_absSq_eq]; norm_num [Cx.normSq]
    have hz : zOf (⟨1/2, 0⟩ : Cx ℝ) 0 0 1 = ⟨0, 0⟩ := by
      apply Cx.ext' <;> simp [zOf, Cx.mul, Cx.smul]
    have hw : wOf (⟨1/2, 0⟩ : Cx ℝ) (1/4) 0 1 0 1 1 ⟨1/2, 0⟩ = ⟨11/8, 0⟩ := by
      unfold wOf
      rw [hz]
      apply Cx.ext'
      · simp [linkU, Cx.expNegI, Cx.mul, Cx.add, Cx.smul]
        norm_num
      · simp [linkU, Cx.expNegI, Cx.mul, Cx.add, Cx.smul]
    show solveSite (zOf (⟨1/2, 0⟩ : Cx ℝ) 0 0 1)
      (wOf (⟨1/2, 0⟩ : Cx ℝ) (absSq (⟨1/2, 0⟩ : Cx ℝ)) 0 1 0 1 1 ⟨1/2, 0⟩) = _
    rw [ha, hz, hw, solveSite_zero]
    norm_num [Cx.normSq]
  · intro h
    have := congrArg Cx.re h
    norm_num at this

/-- With the re-imposition step of the repaired `update`, every terminal value (zero or not) is held:
    after any answered update a pinned site carries exactly `terminal_psi` and `|terminal_psi|²`. -/
theorem C06_value_held {K : Type} [Add K] [Sub K] [Mul K] [Div K] [Neg K]
    [OfNat K 0] [OfNat K 1] [OfNat K 2] [OfNat K 4] [LT K] [DecidableLT K] [HasSqrt K] [HasTrig K]
    (m : FVMesh K) (fixed : ℕ → Bool) (v : Cx K) (U psi : ℕ → Cx K) (a mu eps : ℕ → K)
    (gamma u dt : K) (out : ℕ → Cx K × K)
    (h : eulerPinnedFn m fixed (some v) U psi a mu eps gamma u dt = some out) (r : ℕ)
    (hf : fixed r = true) : out r = (v, absSq v) := by
  obtain ⟨-, rfl⟩ := (eulerPinnedFn_eq_some_iff ..).mp h
  simp only [pinSite, hf, if_true]

/-- ... and sites outside the terminals are exactly what the Euler step produced. -/
theorem C06_unpinned_sites_free {K : Type} [Add K] [Sub K] [Mul K] [Div K] [Neg K]
    [OfNat K 0] [OfNat K 1] [OfNat K 2] [OfNat K 4] [LT K] [DecidableLT K] [HasSqrt K] [HasTrig K]
    (m : FVMesh K) (fixed : ℕ → Bool) (tp : Option (Cx K)) (U psi : ℕ → Cx K) (a mu eps : ℕ → K)
    (gamma u dt : K) (out : ℕ → Cx K × K)
    (h : eulerPinnedFn m fixed tp U psi a mu eps gamma u dt = some out) (r : ℕ) (hr : r < m.n)
    (hf : fixed r = false) : eulerSite m fixed U psi a mu eps gamma u dt r = some (out r) := by
  obtain ⟨v, hv, hout⟩ := eulerPinnedFn_site h hr
  rw [hv, hout]
  cases tp <;> simp only [pinSite, hf, Bool.false_eq_true, if_false]

end Tdgl.C06
