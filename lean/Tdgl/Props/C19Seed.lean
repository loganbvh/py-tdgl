/-
  C19 (and C14) — device equality and the seed-solution guard.  Model: Tdgl/DeviceEq.lean.
  `Device.__eq__` compares holes and terminals as name-sorted lists; the theorems say that this is equality up to
  the order in which holes / terminals were listed and nothing weaker: in particular a device with one more or one
  fewer hole or terminal is never equal (a "compare the common prefix" implementation would accept it), and a
  seed solution from such a device is rejected before anything is written.
-/
import Mathlib.Data.List.Perm.Basic
import Mathlib.Data.List.Sort
import Mathlib.Data.String.Basic
import Mathlib.Tactic.Common
import Tdgl.DeviceEq
import Tdgl.Lemmas.SortByKey
import Tdgl.Props.C14

open Tdgl Tdgl.H5

namespace Tdgl.C19

variable {V : Type} [DecidableEq V]

/-- sorting by name only permutes the list -/
theorem C19_sort_perm {A : Type} (l : List (String × A)) : (sortByKey l).Perm l := sortByKey_perm l

private theorem namedEq_iff (l1 l2 : List (String × PolyRec V)) :
    namedEq l1 l2 = true ↔ sortByKey l1 = sortByKey l2 := by
  unfold namedEq
  exact decide_eq_true_iff

/-- name-sorted comparison accepts only lists with the same entries (in particular the same number) -/
theorem C19_namedEq_perm (l1 l2 : List (String × PolyRec V)) (h : namedEq l1 l2 = true) : l1.Perm l2 :=
  (sortByKey_perm l1).symm.trans ((namedEq_iff l1 l2).1 h ▸ sortByKey_perm l2)

theorem C19_namedEq_length (l1 l2 : List (String × PolyRec V)) (h : namedEq l1 l2 = true) :
    l1.length = l2.length :=
  (C19_namedEq_perm l1 l2 h).length_eq

/-- with distinct names the converse holds: the order of listing does not matter -/
theorem C19_namedEq_of_perm (l1 l2 : List (String × PolyRec V)) (hp : l1.Perm l2)
    (hn : (l1.map (·.1)).Nodup) : namedEq l1 l2 = true :=
  (namedEq_iff l1 l2).2 ((sortByKey_eq_sortByKey_iff hn).2 hp)

private theorem devEq_iff (a b : DevRec V) :
    devEq a b = true ↔
      a.name = b.name ∧ a.layer = b.layer ∧ a.film = b.film ∧ namedEq a.holes b.holes = true ∧
        namedEq a.terminals b.terminals = true ∧ a.probePoints = b.probePoints ∧ a.lengthUnits = b.lengthUnits := by
  unfold devEq
  simp only [Bool.and_eq_true, decide_eq_true_eq]
  tauto

/-- equal devices agree in every component (holes and terminals up to order) -/
theorem C19_devEq_sound (a b : DevRec V) (h : devEq a b = true) :
    a.name = b.name ∧ a.layer = b.layer ∧ a.film = b.film ∧ a.holes.Perm b.holes ∧ a.terminals.Perm b.terminals
      ∧ a.probePoints = b.probePoints ∧ a.lengthUnits = b.lengthUnits := by
  obtain ⟨h1, h2, h3, h4, h5, h6, h7⟩ := (devEq_iff a b).1 h
  exact ⟨h1, h2, h3, C19_namedEq_perm _ _ h4, C19_namedEq_perm _ _ h5, h6, h7⟩

/-- ... and conversely (distinct hole names, distinct terminal names: what the Device constructor enforces) -/
theorem C19_devEq_complete (a b : DevRec V)
    (h : a.name = b.name ∧ a.layer = b.layer ∧ a.film = b.film ∧ a.holes.Perm b.holes ∧ a.terminals.Perm b.terminals
      ∧ a.probePoints = b.probePoints ∧ a.lengthUnits = b.lengthUnits)
    (hh : (a.holes.map (·.1)).Nodup) (ht : (a.terminals.map (·.1)).Nodup) : devEq a b = true := by
  obtain ⟨h1, h2, h3, h4, h5, h6, h7⟩ := h
  exact (devEq_iff a b).2
    ⟨h1, h2, h3, C19_namedEq_of_perm _ _ h4 hh, C19_namedEq_of_perm _ _ h5 ht, h6, h7⟩

theorem C19_devEq_refl (a : DevRec V) : devEq a a = true :=
  (devEq_iff a a).2 ⟨rfl, rfl, rfl, (namedEq_iff _ _).2 rfl, (namedEq_iff _ _).2 rfl, rfl, rfl⟩

private theorem devEq_symm_imp (a b : DevRec V) (h : devEq a b = true) : devEq b a = true := by
  obtain ⟨h1, h2, h3, h4, h5, h6, h7⟩ := (devEq_iff a b).1 h
  exact (devEq_iff b a).2 ⟨h1.symm, h2.symm, h3.symm, (namedEq_iff _ _).2 ((namedEq_iff _ _).1 h4).symm,
    (namedEq_iff _ _).2 ((namedEq_iff _ _).1 h5).symm, h6.symm, h7.symm⟩

theorem C19_devEq_symm (a b : DevRec V) : devEq a b = devEq b a := by
  rw [Bool.eq_iff_iff]
  exact ⟨devEq_symm_imp a b, devEq_symm_imp b a⟩

private theorem length_insert_ne {A : Type} (x : A) (pre post : List A) :
    (pre ++ post).length ≠ (pre ++ x :: post).length := by
  simp only [List.length_append, List.length_cons]
  omega

/-- one more (or one fewer) hole or terminal: never equal, whatever the extra one is called -/
theorem C19_extra_hole_not_equal (a : DevRec V) (h : String × PolyRec V) (pre post : List (String × PolyRec V))
    (ha : a.holes = pre ++ post) :
    devEq a { a with holes := pre ++ h :: post } = false ∧ devEq { a with holes := pre ++ h :: post } a = false := by
  have key : devEq a { a with holes := pre ++ h :: post } = false := by
    rw [Bool.eq_false_iff]
    intro he
    have hp : a.holes.Perm (pre ++ h :: post) := (C19_devEq_sound _ _ he).2.2.2.1
    rw [ha] at hp
    exact length_insert_ne h pre post hp.length_eq
  exact ⟨key, (C19_devEq_symm _ _).trans key⟩

theorem C19_extra_terminal_not_equal (a : DevRec V) (t : String × PolyRec V) (pre post : List (String × PolyRec V))
    (ha : a.terminals = pre ++ post) :
    devEq a { a with terminals := pre ++ t :: post } = false ∧ devEq { a with terminals := pre ++ t :: post } a = false := by
  have key : devEq a { a with terminals := pre ++ t :: post } = false := by
    rw [Bool.eq_false_iff]
    intro he
    have hp : a.terminals.Perm (pre ++ t :: post) := (C19_devEq_sound _ _ he).2.2.2.2.1
    rw [ha] at hp
    exact length_insert_ne t pre post hp.length_eq
  exact ⟨key, (C19_devEq_symm _ _).trans key⟩

/-- the seed guard lets a seed through exactly when its device equals the simulated one -/
theorem C19_seed_guard (s d : DevRec V) : seedGuard s d = none ↔ devEq s d = true := by
  unfold seedGuard
  cases devEq s d <;> simp

/-- a seed from a device with an extra hole is rejected -/
theorem C19_seed_extra_hole_rejected (a : DevRec V) (h : String × PolyRec V) (pre post : List (String × PolyRec V))
    (ha : a.holes = pre ++ post) : seedGuard a { a with holes := pre ++ h :: post } ≠ none := by
  intro hg
  have h1 := (C19_seed_guard _ _).1 hg
  rw [(C19_extra_hole_not_equal a h pre post ha).1] at h1
  exact Bool.false_ne_true h1

/-- C14: a device read back from its stored form equals the original (distinct names) -/
theorem C19_roundtrip_equal (d : DevRec V) (hh : (d.holes.map (·.1)).Nodup) (ht : (d.terminals.map (·.1)).Nodup) :
    (decodeDev (encodeDev d)).map (devEq d) = some true := by
  rw [Tdgl.C14.C14_device_roundtrip, Option.map_some]
  congr 1
  exact C19_devEq_complete d (canonDev d)
    ⟨rfl, rfl, rfl, (C19_sort_perm d.holes).symm, (C19_sort_perm d.terminals).symm, rfl, rfl⟩ hh ht

/-- non-vacuity: two terminals listed in either order are equal; dropping one is not -/
example :
    let p : PolyRec Nat := ⟨some 1, 0, 7⟩
    let q : PolyRec Nat := ⟨some 2, 0, 9⟩
    let L : LayerRec Nat := ⟨1, 2, 3, 4, 5, 6, none⟩
    let a : DevRec Nat := ⟨0, 0, L, p, [("source", p), ("drain", q)], [], none⟩
    let b : DevRec Nat := { a with terminals := [("drain", q), ("source", p)] }
    let c : DevRec Nat := { a with terminals := [("drain", q)] }
    devEq a b = true ∧ devEq a c = false ∧ devEq c a = false := by
  intro p q L a b c
  refine ⟨?_, ?_, ?_⟩
  · exact C19_devEq_complete a b
      ⟨rfl, rfl, rfl, List.Perm.refl _, List.Perm.swap _ _ _, rfl, rfl⟩ (by decide) (by decide)
  · exact (C19_extra_terminal_not_equal c ("source", p) [] [("drain", q)] rfl).2
  · exact (C19_extra_terminal_not_equal c ("source", p) [] [("drain", q)] rfl).1

end Tdgl.C19
